/-
  C06 (field level), through the whole model pipeline: moving the measurement point by whole cells translates the
  footprint fields cyclically by the same cells on the padded domain; translating the padded surface-flux field
  cyclically by whole cells translates both dispersion fields by the same cells, for every truncation, parity,
  level, profile set, numeric/analytic.
-/
import Proofs.C04b
import Proofs.C06
import Proofs.Lemmas.Witness

open BLDFM BLDFM.Spec BLDFM.Index

namespace BLDFM.C06

/-- the spectral coefficients do not depend on the measurement point -/
theorem modeCoef_indep_tower (req : SolveReq ℝ) (g : Geom ℝ) (S : ℕ → ℕ → ℂ) (l a b : ℕ) (x y : ℝ) :
    modeCoef RC { req with xm := x, ym := y } g S l a b = modeCoef RC req g S l a b := rfl

/-- tower shift (footprint mode), whole pipeline: moving the measurement point by `(cx, cy)` whole cells moves
both footprint fields cyclically by `(cy, cx)` cells on the padded domain: the value at `(J, I)` is the old value at
`(J − cy, I − cx)` modulo the padded size. -/
theorem tower_shift_field (req : SolveReq ℝ) (hg : GeomOK (geom RC req)) (hfp : req.footprint = true)
    (hdx : (geom RC req).dx ≠ 0) (hdy : (geom RC req).dy ≠ 0) (cx cy : ℤ) (S : ℕ → ℕ → ℂ)
    (l J I J' I' : ℕ) (tx ty : ℤ)
    (hI : (I : ℤ) - cx = I' + (geom RC req).nxe * tx) (hJ : (J : ℤ) - cy = J' + (geom RC req).nye * ty) :
    let g := geom RC req
    let req' : SolveReq ℝ := { req with xm := req.xm + cx * g.dx, ym := req.ym + cy * g.dy }
    (fieldsAt RC req' g S l).1.get J I = (fieldsAt RC req g S l).1.get J' I' ∧
    (fieldsAt RC req' g S l).2.get J I = (fieldsAt RC req g S l).2.get J' I' := by
  intro g req'
  refine Prod.mk.inj ?_
  rw [fieldsAt_trig req' g hg, fieldsAt_trig req g hg]
  refine (trig_translate (T := coefTab req g S l) cy cx (fun a ha b hb => ?_) _ _).trans ?_
  · have ph : shiftFactor RC req' g a b = _ := tower_shift_phase req hfp a b cx cy ha hb hdx hdy hg.Nx_pos hg.Ny_pos
    rw [coefTab, coefTab, ph, smul_smul, show req'.footprint = true from hfp, sgnZ_true]
    simp only [neg_mul, one_mul, neg_neg]
    rw [mul_comm]
    exact congrArg _ (modeCoef_indep_tower req g S l a b _ _)
  · exact trig_periodic hg.Ny_pos hg.Nx_pos ty tx hJ hI

/-- DFT shift theorem for one axis: cyclically shifting a row by `c` cells multiplies the coefficient of signed
frequency `m` by `ω^{-m c}` -/
theorem dft_shift (N : ℕ) (hN : 0 < N) (ρ : ℕ → ℂ) (m c : ℤ) :
    ∑ I ∈ Finset.range N, ρ ((((I : ℤ) - c) % N).toNat) * rootPow N (-(m * I))
      = rootPow N (-(m * c)) * ∑ I ∈ Finset.range N, ρ I * rootPow N (-(m * I)) :=
  fwd_roll hN ρ m c

/-- the truncated spectrum of a cyclically shifted padded source -/
theorem srcSpectrum_shift (r r' : SolveReq ℝ) (h : C04.SameButSource r r') (hg : GeomOK (geom RC r))
    (hfp : r.footprint = false) (cx cy : ℤ)
    (hq : ∀ J I, J < (geom RC r).nye → I < (geom RC r).nxe →
      padSrc RC r' (geom RC r) J I =
        padSrc RC r (geom RC r) ((((J : ℤ) - cy) % (geom RC r).nye).toNat) ((((I : ℤ) - cx) % (geom RC r).nxe).toNat))
    (a b : ℕ) (ha : a < (geom RC r).nly) (hb : b < (geom RC r).nlx) :
    (srcSpectrum RC r' (geom RC r)).get a b =
      (srcSpectrum RC r (geom RC r)).get a b
        * (rootPow (geom RC r).nxe (-(sfreq (geom RC r).nlx b * cx)) * rootPow (geom RC r).nye (-(sfreq (geom RC r).nly a * cy))) := by
  set g := geom RC r
  rw [C02.srcSpectrum_fwd r' hg ((congrArg (·.footprint) h).trans hfp) a b ha hb,
    C02.srcSpectrum_fwd r hg hfp a b ha hb, div_mul_eq_mul_div]
  refine congrArg (· / _) ?_
  -- each row is rolled by `cx` …
  let row : ℕ → ℂ := fun Jr => rootPow g.nxe (-(sfreq g.nlx b * cx)) * fwd g.nxe (padSrc RC r g Jr) (sfreq g.nlx b)
  have rows : ∀ J < g.nye, fwd g.nxe (padSrc RC r' g J) (sfreq g.nlx b) = row ((((J : ℤ) - cy) % g.nye).toNat) :=
    fun J hJ => (fwd_congr (fun I hI => hq J I hJ hI) _).trans (fwd_roll hg.Nx_pos _ _ cx)
  -- … then the rows are rolled by `cy`
  rw [fwd_congr rows, fwd_roll hg.Ny_pos row _ cy, fwd_const_mul]
  ring

/-- source shift (dispersion mode), whole pipeline: if the padded surface-flux field of `r'` is the padded field
of `r` rolled cyclically by `(cy, cx)` cells, then both fields of `r'` are the fields of `r` rolled by the same
cells, at every level, for every truncation, parity, profile set, numeric and analytic. -/
theorem source_shift_field (r r' : SolveReq ℝ) (h : C04.SameButSource r r') (hbg : r'.bg = r.bg)
    (hg : GeomOK (geom RC r)) (hp : r.precision = .double) (hden : C02.DenOK r) (hfp : r.footprint = false)
    (cx cy : ℤ)
    (hq : ∀ J I, J < (geom RC r).nye → I < (geom RC r).nxe →
      padSrc RC r' (geom RC r) J I =
        padSrc RC r (geom RC r) ((((J : ℤ) - cy) % (geom RC r).nye).toNat) ((((I : ℤ) - cx) % (geom RC r).nxe).toNat))
    (l J I J' I' : ℕ) (tx ty : ℤ)
    (hI : (I : ℤ) - cx = I' + (geom RC r).nxe * tx) (hJ : (J : ℤ) - cy = J' + (geom RC r).nye * ty) :
    let g := geom RC r
    let F := fun (ρ : SolveReq ℝ) => fieldsAt RC ρ g (srcSpectrum RC ρ g).get l
    (F r').1.get J I = (F r).1.get J' I' ∧ (F r').2.get J I = (F r).2.get J' I' := by
  intro g F
  have hfp' : r'.footprint = false := (congrArg (·.footprint) h).trans hfp
  have hsh : ∀ a b, shiftFactor RC r' g a b = shiftFactor RC r g a b := fun a b => by rw [h]; rfl
  refine Prod.mk.inj ?_
  simp only [F]
  rw [fieldsAt_trig r' g hg, fieldsAt_trig r g hg, hfp', hfp]
  refine (trig_translate (T := coefTab r g (srcSpectrum RC r g).get l) cy cx (fun a ha b hb => ?_) _ _).trans ?_
  · have hS := srcSpectrum_shift r r' h hg hfp cx cy hq a b ha hb
    rw [mul_comm] at hS
    have hχ : a = 0 ∧ b = 0 → rootPow g.nxe (-(sfreq g.nlx b * cx)) * rootPow g.nye (-(sfreq g.nly a * cy)) = 1 := by
      rintro ⟨rfl, rfl⟩
      rw [sfreq_zero hg.adx.pos, sfreq_zero hg.ady.pos, zero_mul, zero_mul, neg_zero, rootPow_zero, rootPow_zero, one_mul]
    have hT : ∀ i, Tcoef RC r'.P (waveX RC g b) (waveY RC g a) i = Tcoef RC r.P (waveX RC g b) (waveY RC g a) i :=
      fun i => by rw [show r'.P = r.P from congrArg (·.P) h]
    have hc : modeCoef RC r' g (srcSpectrum RC r' g).get l a b =
        (rootPow g.nxe (-(sfreq g.nlx b * cx)) * rootPow g.nye (-(sfreq g.nly a * cy)))
          • modeCoef RC r g (srcSpectrum RC r g).get l a b :=
      modeCoef_congr (han := congrArg (·.analytic) h) (hnz := congrArg (·.nz) h) (hz := congrArg (·.z) h)
        (hK := congrArg (·.P.Kz) h) (hbg := hbg) (h0 := Iff.rfl) (hT := hT) (hS := hS) (hχ := hχ) l
    rw [coefTab, coefTab, hsh, smul_comm, sgnZ_false, one_mul, one_mul, hc]
  · exact trig_periodic hg.Ny_pos hg.Nx_pos ty tx hJ hI

/-- the hypothesis of `source_shift_field` for a periodic domain (no halo): the source itself is rolled -/
theorem padSrc_roll_of_periodic (r r' : SolveReq ℝ) (h : C04.SameButSource r r')
    (hpx : (geom RC r).px = 0) (hpy : (geom RC r).py = 0) (hnx : 0 < r.nx) (hny : 0 < r.ny) (cx cy : ℤ)
    (hq : ∀ j i, j < r.ny → i < r.nx →
      r'.q j i = r.q ((((j : ℤ) - cy) % r.ny).toNat) ((((i : ℤ) - cx) % r.nx).toNat)) :
    ∀ J I, J < (geom RC r).nye → I < (geom RC r).nxe →
      padSrc RC r' (geom RC r) J I =
        padSrc RC r (geom RC r) ((((J : ℤ) - cy) % (geom RC r).nye).toNat) ((((I : ℤ) - cx) % (geom RC r).nxe).toNat) := by
  intro J I hJ hI
  have n' : r'.ny = r.ny ∧ r'.nx = r.nx := by rw [show r' = _ from h]; exact ⟨rfl, rfl⟩
  have hroll : ∀ (t : ℤ) {n : ℕ}, 0 < n → (t % n).toNat < n := fun t n hn =>
    (Int.toNat_lt (Int.emod_nonneg _ (by omega))).2 (Int.emod_lt_of_pos _ (by omega))
  rw [C11.geom_nxe, hpx, Nat.mul_zero, Nat.add_zero] at hI ⊢
  rw [C11.geom_nye, hpy, Nat.mul_zero, Nat.add_zero] at hJ ⊢
  have hin : ∀ (ρ : SolveReq ℝ) {J I : ℕ}, J < ρ.ny → I < ρ.nx → padSrc RC ρ (geom RC r) J I = (ρ.q J I : ℂ) :=
    fun ρ J I hJ hI => by
      have h := C03.padSrc_inside ρ (geom RC r) hJ hI
      rwa [hpx, hpy, Nat.add_zero, Nat.add_zero] at h
  have hJ' : J < r'.ny := by
    rw [n'.1]
    exact hJ
  have hI' : I < r'.nx := by
    rw [n'.2]
    exact hI
  rw [hin r' hJ' hI', hin r (hroll _ hny) (hroll _ hnx), hq J I hJ hI]

/-! non-vacuity: the hypotheses of `tower_shift_field`, then those of `source_shift_field` through
`padSrc_roll_of_periodic`, are met by a concrete request -/

example : ∃ r : SolveReq ℝ, GeomOK (geom RC r) ∧ r.footprint = true ∧ (geom RC r).dx ≠ 0 ∧ (geom RC r).dy ≠ 0 := by
  refine ⟨Witness.wreq true, Witness.wreq_geomOK true, rfl, ?_, ?_⟩
  all_goals rw [Witness.wreq_geom]
  · norm_num
  · norm_num

example : ∃ r r' : SolveReq ℝ, C04.SameButSource r r' ∧ r'.bg = r.bg ∧ GeomOK (geom RC r) ∧ r.precision = .double ∧
    C02.DenOK r ∧ r.footprint = false ∧ (geom RC r).px = 0 ∧ (geom RC r).py = 0 ∧
    (∀ j i, j < r.ny → i < r.nx → r'.q j i = r.q ((((j : ℤ) - 1) % r.ny).toNat) ((((i : ℤ) - 2) % r.nx).toNat)) :=
  ⟨Witness.wreq false,
   { Witness.wreq false with q := fun j i => (Witness.wreq false).q ((((j : ℤ) - 1) % 4).toNat) ((((i : ℤ) - 2) % 5).toNat) },
   rfl, rfl, Witness.wreq_geomOK false, rfl, Witness.wreq_denOK false, rfl,
   by rw [Witness.wreq_geom], by rw [Witness.wreq_geom], fun _ _ _ _ => rfl⟩

end BLDFM.C06
