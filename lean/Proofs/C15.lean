/-
  C15 — the result cache is transparent, complete, effective and crash-safe: a refinement
  proof that the cached solver behaves like the cache-less one for every history of requests,
  interrupted stores and process restarts, from any initial disk satisfying the invariant.
-/
import BLDFM.Cache
import Mathlib.Tactic.Common

open BLDFM

namespace BLDFM.C15

variable {Res : Type}

/-- the configuration the properties need: every result-determining argument is hashed, both call
sites key on the resolved halo -/
def KeyComplete (cfg : CacheCfg) : Prop :=
  (∀ f ∈ Fld.determining, f ∈ cfg.keyFields) ∧ cfg.haloResolvedAtGet = true ∧ cfg.haloResolvedAtPut = true

/-- the solver's result depends only on the determining arguments (C04: not on the source values;
the default halo is a function of the domain) -/
def Sound (dflt : ℕ → ℕ) (solve : CReq → Res) : Prop :=
  ∀ r r', r.determ dflt = r'.determ dflt → solve r = solve r'

/-- key completeness: equal keys ⇒ equal determining arguments -/
theorem key_complete (cfg : CacheCfg) (dflt : ℕ → ℕ) (hk : KeyComplete cfg) (r r' : CReq)
    (h : r.key cfg dflt true = r'.key cfg dflt true) : r.determ dflt = r'.determ dflt := by
  unfold CReq.key at h
  unfold CReq.determ
  exact List.map_congr_left fun f hf => List.map_inj_left.1 h f (hk.1 f hf)

/-- every decodable entry holds the result of a request with that key -/
def Inv (cfg : CacheCfg) (dflt : ℕ → ℕ) (solve : CReq → Res) (d : Disk Res) : Prop :=
  ∀ k res, d.find k = some (.good res) → ∃ r : CReq, r.key cfg dflt true = k ∧ res = solve r

def Answer.value? : Answer Res → Option Res
  | .hit r => some r
  | .miss r => some r
  | .error => none

theorem find_cons (d : Disk Res) (k k' : List ℕ) (e : Entry Res) :
    Disk.find ((k', e) :: d) k = if k' = k then some e else d.find k := rfl

theorem Inv.push {cfg : CacheCfg} {dflt : ℕ → ℕ} {solve : CReq → Res} {d : Disk Res} (hinv : Inv cfg dflt solve d)
    (k : List ℕ) (e : Entry Res) (he : ∀ res, e = .good res → ∃ r : CReq, r.key cfg dflt true = k ∧ res = solve r) :
    Inv cfg dflt solve ((k, e) :: d) := by
  intro k' res hfind
  rw [find_cons] at hfind
  split at hfind
  next heq => exact heq ▸ he res (Option.some.inj hfind)
  next => exact hinv k' res hfind

theorem Inv.find_key {cfg : CacheCfg} {dflt : ℕ → ℕ} {solve : CReq → Res} {d : Disk Res} (hinv : Inv cfg dflt solve d)
    (hk : KeyComplete cfg) (hs : Sound dflt solve) {r : CReq} {res : Res}
    (hfind : d.find (r.key cfg dflt true) = some (.good res)) : res = solve r := by
  obtain ⟨r', hkey, rfl⟩ := hinv _ _ hfind
  exact hs r' r (key_complete cfg dflt hk r' r hkey)

section operations

variable (cfg : CacheCfg) (dflt : ℕ → ℕ) (solve : CReq → Res)

/-! `solveCached` by what the lookup finds -/
variable {cfg dflt solve} in
theorem solveCached_of_good {d : Disk Res} {r : CReq} {res : Res}
    (h : d.find (r.key cfg dflt cfg.haloResolvedAtGet) = some (.good res)) :
    solveCached cfg dflt solve d r = (.hit res, d) := by
  simp only [solveCached, h]

variable {cfg dflt solve} in
theorem solveCached_of_none {d : Disk Res} {r : CReq} (h : d.find (r.key cfg dflt cfg.haloResolvedAtGet) = none) :
    solveCached cfg dflt solve d r =
      (.miss (solve r), (r.key cfg dflt cfg.haloResolvedAtPut, .good (solve r)) :: d) := by
  simp only [solveCached, h]

variable {cfg dflt solve} in
theorem solveCached_of_corrupt {d : Disk Res} {r : CReq}
    (h : d.find (r.key cfg dflt cfg.haloResolvedAtGet) = some .corrupt) :
    solveCached cfg dflt solve d r =
      if cfg.guardedLoad then (.miss (solve r), (r.key cfg dflt cfg.haloResolvedAtPut, .good (solve r)) :: d)
      else (.error, d) := by
  simp only [solveCached, h]

theorem solveCached_cases (d : Disk Res) (r : CReq) :
    (∃ res, d.find (r.key cfg dflt cfg.haloResolvedAtGet) = some (.good res) ∧
      solveCached cfg dflt solve d r = (.hit res, d)) ∨
    solveCached cfg dflt solve d r =
      (.miss (solve r), (r.key cfg dflt cfg.haloResolvedAtPut, .good (solve r)) :: d) ∨
    (cfg.guardedLoad = false ∧ solveCached cfg dflt solve d r = (.error, d)) := by
  cases hfind : d.find (r.key cfg dflt cfg.haloResolvedAtGet) with
  | none => exact .inr (.inl (solveCached_of_none hfind))
  | some e =>
    cases e with
    | good res => exact .inl ⟨res, rfl, solveCached_of_good hfind⟩
    | corrupt =>
      rw [solveCached_of_corrupt hfind]
      cases hg : cfg.guardedLoad
      · exact .inr (.inr ⟨rfl, rfl⟩)
      · exact .inr (.inl rfl)

/-- one cached solve: the answer is the cache-less result, never an error, and the invariant is kept -/
theorem solveCached_correct (hk : KeyComplete cfg) (hs : Sound dflt solve) (hg : cfg.guardedLoad = true)
    (d : Disk Res) (hinv : Inv cfg dflt solve d) (r : CReq) :
    Answer.value? (solveCached cfg dflt solve d r).1 = some (solve r) ∧
      Inv cfg dflt solve (solveCached cfg dflt solve d r).2 := by
  rcases solveCached_cases cfg dflt solve d r with ⟨res, hfind, he⟩ | he | ⟨hg', -⟩
  · rw [hk.2.1] at hfind
    rw [he, hinv.find_key hk hs hfind]
    exact ⟨rfl, hinv⟩
  · rw [he, hk.2.2]
    exact ⟨rfl, hinv.push _ _ (fun _ h => ⟨r, rfl, (Entry.good.inj h).symm⟩)⟩
  · cases hg.symm.trans hg'

theorem solveCached_ne_error (hg : cfg.guardedLoad = true) (d : Disk Res) (r : CReq) :
    Answer.value? (solveCached cfg dflt solve d r).1 ≠ none := by
  rcases solveCached_cases cfg dflt solve d r with ⟨_, -, he⟩ | he | ⟨hg', -⟩
  · rw [he]
    nofun
  · rw [he]
    nofun
  · cases hg.symm.trans hg'

theorem solveCached_keeps_good (d : Disk Res) (r : CReq) (k : List ℕ) (h : ∃ res, d.find k = some (.good res)) :
    ∃ res, (solveCached cfg dflt solve d r).2.find k = some (.good res) := by
  rcases solveCached_cases cfg dflt solve d r with ⟨_, -, he⟩ | he | ⟨-, he⟩ <;> rw [he]
  · exact h
  · rw [find_cons]
    split
    · exact ⟨_, rfl⟩
    · exact h
  · exact h

theorem solveCached_stores (hk : KeyComplete cfg) (hg : cfg.guardedLoad = true) (d : Disk Res) (r : CReq) :
    ∃ res, (solveCached cfg dflt solve d r).2.find (r.key cfg dflt true) = some (.good res) := by
  rcases solveCached_cases cfg dflt solve d r with ⟨res, hfind, he⟩ | he | ⟨hg', -⟩
  · exact ⟨res, by rw [he, ← hk.2.1, hfind]⟩
  · exact ⟨solve r, by rw [he, hk.2.2, find_cons, if_pos rfl]⟩
  · cases hg.symm.trans hg'

/-- an interrupted store keeps the invariant (whatever the write protocol: a truncated file is not decodable) -/
theorem crash_keeps_inv (d : Disk Res) (hinv : Inv cfg dflt solve d) (r : CReq) :
    Inv cfg dflt solve (crashDuringPut cfg dflt d r) := by
  simp only [crashDuringPut]
  split_ifs
  · exact hinv.push _ _ nofun
  · exact hinv

/-- an entry truncated or corrupted from outside keeps the invariant -/
theorem truncate_keeps_inv (d : Disk Res) (hinv : Inv cfg dflt solve d) (r : CReq) :
    Inv cfg dflt solve (truncateEntry cfg dflt d r) := by
  simp only [truncateEntry]
  split
  · exact hinv.push _ _ nofun
  · exact hinv

end operations

def requestsOf : List COp → List CReq
  | [] => []
  | .request r :: ops => r :: requestsOf ops
  | .crash _ :: ops => requestsOf ops
  | .truncate _ :: ops => requestsOf ops
  | .restart :: ops => requestsOf ops

/-- transparency for every history: with a cache attached, every footprint solve returns exactly what
it would return without one — whatever was solved, stored, interrupted or restarted before, in this or an
earlier process (any initial disk satisfying the invariant, corrupt entries included) -/
theorem cache_transparent (cfg : CacheCfg) (dflt : ℕ → ℕ) (solve : CReq → Res)
    (hk : KeyComplete cfg) (hs : Sound dflt solve) (hg : cfg.guardedLoad = true)
    (ops : List COp) (d : Disk Res) (hinv : Inv cfg dflt solve d) :
    (runHistory cfg dflt solve d ops).1.map Answer.value? = (requestsOf ops).map (fun r => some (solve r)) ∧
      Inv cfg dflt solve (runHistory cfg dflt solve d ops).2 := by
  induction ops generalizing d with
  | nil => exact ⟨rfl, hinv⟩
  | cons op ops ih =>
    cases op with
    | request r =>
      obtain ⟨h1, h2⟩ := solveCached_correct cfg dflt solve hk hs hg d hinv r
      simp only [runHistory, requestsOf, List.map_cons]
      exact ⟨congrArg₂ List.cons h1 (ih _ h2).1, (ih _ h2).2⟩
    | crash r =>
      simp only [runHistory, requestsOf]
      exact ih _ (crash_keeps_inv cfg dflt solve d hinv r)
    | truncate r =>
      simp only [runHistory, requestsOf]
      exact ih _ (truncate_keeps_inv cfg dflt solve d hinv r)
    | restart =>
      simp only [runHistory, requestsOf]
      exact ih _ hinv

/-- a key that holds a complete entry keeps holding one (a later store under the same key may replace its value)
unless the entry is truncated from outside: requests only add complete entries, and with the atomic write protocol an
interrupted store leaves the disk untouched -/
theorem good_entry_persists (cfg : CacheCfg) (dflt : ℕ → ℕ) (solve : CReq → Res) (ha : cfg.atomicWrite = true)
    (ops : List COp) (hnt : ∀ o ∈ ops, ∀ r, o ≠ COp.truncate r)
    (d : Disk Res) (k : List ℕ) (h : ∃ res, d.find k = some (.good res)) :
    ∃ res, (runHistory cfg dflt solve d ops).2.find k = some (.good res) := by
  induction ops generalizing d with
  | nil => exact h
  | cons op ops ih =>
    obtain ⟨hop, hnt'⟩ := List.forall_mem_cons.1 hnt
    cases op with
    | request r =>
      simp only [runHistory]
      exact ih hnt' _ (solveCached_keeps_good cfg dflt solve d r k h)
    | crash r =>
      simp only [runHistory]
      apply ih hnt'
      simpa only [crashDuringPut, ha, Bool.not_true, Bool.and_false, Bool.false_eq_true, if_false] using h
    | truncate r => exact absurd rfl (hop r)
    | restart =>
      simp only [runHistory]
      exact ih hnt' _ h

/-- effectiveness: once a request has completed, repeating the identical request later — after any
other requests, interrupted stores (atomic protocol) and restarts — is served from the cache -/
theorem cache_effective (cfg : CacheCfg) (dflt : ℕ → ℕ) (solve : CReq → Res)
    (hk : KeyComplete cfg) (hs : Sound dflt solve) (hg : cfg.guardedLoad = true) (ha : cfg.atomicWrite = true)
    (d : Disk Res) (hinv : Inv cfg dflt solve d) (r : CReq) (between : List COp)
    (hnt : ∀ o ∈ between, ∀ r', o ≠ COp.truncate r') :
    let d1 := (solveCached cfg dflt solve d r).2
    let d2 := (runHistory cfg dflt solve d1 between).2
    (solveCached cfg dflt solve d2 r).1 = .hit (solve r) := by
  intro d1 d2
  obtain ⟨res, hres⟩ :=
    good_entry_persists cfg dflt solve ha between hnt d1 _ (solveCached_stores cfg dflt solve hk hg d r)
  have hinv2 : Inv cfg dflt solve d2 :=
    (cache_transparent cfg dflt solve hk hs hg between d1 (solveCached_correct cfg dflt solve hk hs hg d hinv r).2).2
  have hfind : d2.find (r.key cfg dflt cfg.haloResolvedAtGet) = some (.good (solve r)) := by
    rw [hk.2.1, hres, hinv2.find_key hk hs hres]
  rw [solveCached_of_good hfind]

/-- crash safety: with guarded loading no history ever produces an error, however corrupt the
initial disk is -/
theorem never_fatal (cfg : CacheCfg) (dflt : ℕ → ℕ) (solve : CReq → Res) (hg : cfg.guardedLoad = true)
    (ops : List COp) (d : Disk Res) :
    ∀ a ∈ (runHistory cfg dflt solve d ops).1, Answer.value? a ≠ none := by
  induction ops generalizing d with
  | nil => nofun
  | cons op ops ih =>
    cases op with
    | request r =>
      simp only [runHistory]
      exact List.forall_mem_cons.2 ⟨solveCached_ne_error cfg dflt solve hg d r, ih _⟩
    | crash r | truncate r | restart =>
      simp only [runHistory]
      exact ih _

/-- a truncated entry is a miss: the request is recomputed (and re-stored), never an error -/
theorem truncated_is_miss (cfg : CacheCfg) (dflt : ℕ → ℕ) (solve : CReq → Res)
    (hk : KeyComplete cfg) (hg : cfg.guardedLoad = true) (d : Disk Res) (r : CReq)
    (hex : ∃ e, d.find (r.key cfg dflt true) = some e) :
    (solveCached cfg dflt solve (truncateEntry cfg dflt d r) r).1 = .miss (solve r) := by
  obtain ⟨_, hget, hput⟩ := hk
  obtain ⟨e, he⟩ := hex
  have hfind : (truncateEntry cfg dflt d r).find (r.key cfg dflt cfg.haloResolvedAtGet) = some .corrupt := by
    simp only [truncateEntry, hget, hput, he, find_cons, if_true]
  rw [solveCached_of_corrupt hfind, hg, if_pos rfl]

/-- incompleteness is observable: if an argument is not hashed, two requests (with an explicit halo)
differing only in it collide, so the second is served the first one's entry (what a key without `levels`, the
grid shape, `analytic` or `srf_bg_conc` does: defect D5, DESIGN.md §5 and §9.6) -/
theorem incomplete_key_collides (cfg : CacheCfg) (dflt : ℕ → ℕ) (f : Fld) (hf : f ∉ cfg.keyFields)
    (r : CReq) (hh : r.haloNone = false) (v : ℕ) (res : Bool) :
    let r' : CReq := { r with val := fun g => if g = f then v else r.val g }
    r'.key cfg dflt res = r.key cfg dflt res := by
  intro r'
  unfold CReq.key
  apply List.map_congr_left
  intro g hg
  have hgf : g ≠ f := fun h => hf (h ▸ hg)
  simp only [CReq.fieldVal, r', hh, hgf, if_false, Bool.false_eq_true, and_false]

/-! non-vacuity: the complete configuration satisfies `KeyComplete`; a trivial solver is `Sound` -/
example : KeyComplete ⟨Fld.determining, true, true, true, true⟩ := ⟨fun _ h => h, rfl, rfl⟩
example : Sound (Res := ℕ) (fun d => d) (fun r => (r.determ (fun d => d)).sum) := by
  intro r r' h; simp only [h]

end BLDFM.C15
