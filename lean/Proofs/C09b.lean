/-
  C09 (stability functions) — the stability correction has the flux-gradient quotient as its derivative:
  `psi' = (phi_M − 1)/x` with `phi_M = (1 − 16x)^{−1/4}` on the unstable side and `1 + 5x` on the stable side;
  both functions are continuous through neutral stratification.
-/
import Proofs.C09
import Mathlib.Analysis.SpecialFunctions.Pow.Deriv
import Mathlib.Analysis.SpecialFunctions.Log.Deriv
import Mathlib.Analysis.SpecialFunctions.Trigonometric.ArctanDeriv

open BLDFM BLDFM.Spec

namespace BLDFM.C09

theorem Fxi_deriv (ξ : ℝ) (hξ : 0 < ξ) :
    HasDerivAt Fxi (-4 * ξ ^ 2 / ((1 + ξ) * (1 + ξ ^ 2))) ξ := by
  have h1 : HasDerivAt (fun ξ : ℝ => 1 / 2 * (1 + ξ)) (1 / 2) ξ := by
    simpa using ((hasDerivAt_id ξ).const_add 1).const_mul (1 / 2 : ℝ)
  have h2 : HasDerivAt (fun ξ : ℝ => 1 / 2 * (1 + ξ ^ 2)) (1 / 2 * (2 * ξ)) ξ := by
    simpa using ((hasDerivAt_pow 2 ξ).const_add 1).const_mul (1 / 2 : ℝ)
  have h := ((((h1.log (by positivity)).const_mul (-2 : ℝ)).sub (h2.log (by positivity))).add
    ((Real.hasDerivAt_arctan ξ).const_mul (2 : ℝ))).sub_const (1 / 2 * Real.pi)
  refine h.congr_deriv ?_
  field_simp
  ring

theorem hasDerivAt_one_sub_rpow (p : ℝ) {x : ℝ} (hx : 0 < 1 - 16 * x) :
    HasDerivAt (fun x : ℝ => (1 - 16 * x) ^ p) (-16 * p * (1 - 16 * x) ^ (p - 1)) x := by
  simpa using (((hasDerivAt_id x).const_mul (16 : ℝ)).const_sub 1).rpow_const (p := p) (Or.inl hx.ne')

/-- unstable side: `psi'(x) = (phi_M(x) − 1)/x`, `phi_M = (1 − 16x)^{−1/4}` -/
theorem psi_deriv_unstable (x : ℝ) (hx : x < 0) :
    HasDerivAt (psi RC) (((1 - 16 * x) ^ (-(1 : ℝ) / 4) - 1) / x) x := by
  have hb : 0 < 1 - 16 * x := by linarith
  set ξ := (1 - 16 * x) ^ ((1 : ℝ) / 4) with hξdef
  have hξ : 0 < ξ := Real.rpow_pos_of_pos hb _
  have hξ4 : ξ ^ 4 = 1 - 16 * x := by
    rw [hξdef, ← Real.rpow_natCast, ← Real.rpow_mul hb.le]
    norm_num
  have hpow : (1 - 16 * x) ^ ((1 : ℝ) / 4 - 1) = ξ / ξ ^ 4 := by rw [Real.rpow_sub_one hb.ne', hξ4]
  have hphi : (1 - 16 * x) ^ (-(1 : ℝ) / 4) = ξ⁻¹ := by rw [neg_div, Real.rpow_neg hb.le]
  -- chain rule where `psi` is its unstable branch `Fxi ∘ ξ`; then everything in terms of `ξ`, `x = (1 − ξ⁴)/16`
  have hcomp := (Fxi_deriv ξ hξ).comp x (hasDerivAt_one_sub_rpow (1 / 4) hb)
  have hev : psi RC =ᶠ[nhds x] fun y => Fxi ((1 - 16 * y) ^ ((1 : ℝ) / 4)) :=
    (eventually_lt_nhds hx).mono fun y hy => psi_unstable_eq hy.le
  have hx16 : x = (1 - ξ ^ 4) / 16 := by
    rw [hξ4]
    ring
  refine (hcomp.congr_of_eventuallyEq hev).congr_deriv ?_
  rw [hpow, hphi, eq_div_iff hx.ne, hx16]
  field_simp
  ring

/-- stable side: `psi'(x) = 5 = (phi(x) − 1)/x`, `phi = 1 + 5x` -/
theorem psi_deriv_stable (x : ℝ) (hx : 0 < x) : HasDerivAt (psi RC) ((phi RC x - 1) / x) x := by
  rw [phi_of_pos hx, add_sub_cancel_left, mul_div_cancel_right₀ _ hx.ne']
  have hev : psi RC =ᶠ[nhds x] fun y => 5 * y := (eventually_gt_nhds hx).mono fun y hy => psi_of_pos hy
  simpa using ((hasDerivAt_id x).const_mul (5 : ℝ)).congr_of_eventuallyEq hev

theorem continuousAt_of_left_right {f g h : ℝ → ℝ} {a : ℝ} (hl : ∀ x ≤ a, f x = g x) (hr : ∀ x, a < x → f x = h x)
    (hg : ContinuousAt g a) (hh : ContinuousAt h a) (hgh : g a = h a) : ContinuousAt f a := by
  have hr' : ∀ x ∈ Set.Ici a, f x = h x := fun x hx => by
    rcases (Set.mem_Ici.1 hx).eq_or_lt with rfl | hx
    · rw [hl _ le_rfl, hgh]
    · exact hr x hx
  exact continuousAt_iff_continuous_left_right.2
    ⟨hg.continuousWithinAt.congr (fun x hx => hl x hx) (hl a le_rfl),
      hh.continuousWithinAt.congr hr' (hr' a Set.self_mem_Ici)⟩

/-- continuity through neutral stratification -/
theorem psi_continuousAt_zero : ContinuousAt (psi RC) 0 := by
  refine continuousAt_of_left_right (g := fun x => Fxi ((1 - 16 * x) ^ ((1 : ℝ) / 4))) (h := fun x => 5 * x)
    (fun _ => psi_unstable_eq) (fun _ => psi_of_pos) ?_ (by fun_prop) ?_
  · exact ContinuousAt.comp (g := Fxi) (Fxi_deriv _ (by norm_num)).continuousAt
      (hasDerivAt_one_sub_rpow (1 / 4) (by norm_num)).continuousAt
  · rw [← psi_unstable_eq (x := 0) le_rfl, psi_zero, mul_zero]

theorem phi_continuousAt_zero : ContinuousAt (phi RC) 0 :=
  continuousAt_of_left_right (g := fun x => (1 - 16 * x) ^ (-(1 : ℝ) / 2)) (h := fun x => 1 + 5 * x)
    (fun _ => phi_of_nonpos) (fun _ => phi_of_pos)
    (hasDerivAt_one_sub_rpow _ (by norm_num)).continuousAt (by fun_prop) (by norm_num)

end BLDFM.C09
