/-
  C04 — concentration and flux are linear in (surface flux, background) and the background never reaches the flux,
  at the level of one layer, one sweep, one column and the mean mode.
-/
import Proofs.Lemmas.Spec
import Proofs.Lemmas.Tactics

open BLDFM BLDFM.Spec

namespace BLDFM.C04

/-- one layer is a linear map of the `(p, q)` pair -/
theorem layerStep_linear (T k dz a b : ℂ) (x y : ℂ × ℂ) :
    layerStep T k dz (a * x.1 + b * y.1, a * x.2 + b * y.2) =
      (a * (layerStep T k dz x).1 + b * (layerStep T k dz y).1,
       a * (layerStep T k dz x).2 + b * (layerStep T k dz y).2) := by
  simp only [layerStep]
  refine Prod.ext ?_ ?_ <;> ring

/-- the whole sweep is linear in its initial pair, for every profile set, grid and wavenumber -/
theorem ivp_linear (P : Profiles ℝ) (z : ℕ → ℝ) (Lx Ly : ℝ) (a b : ℂ) (x y : ℂ × ℂ) (l : ℕ) :
    ivpState RC P z Lx Ly (a * x.1 + b * y.1, a * x.2 + b * y.2) l =
      (a * (ivpState RC P z Lx Ly x l).1 + b * (ivpState RC P z Lx Ly y l).1,
       a * (ivpState RC P z Lx Ly x l).2 + b * (ivpState RC P z Lx Ly y l).2) := by
  induction l with
  | zero => rfl
  | succ l ih =>
    simp only [ivpState]
    rw [ih]
    exact layerStep_linear _ _ _ a b _ _

theorem ivp_smul (P : Profiles ℝ) (z : ℕ → ℝ) (Lx Ly : ℝ) (c p q : ℂ) (l : ℕ) :
    ivpState RC P z Lx Ly (c * p, c * q) l =
      (c * (ivpState RC P z Lx Ly (p, q) l).1, c * (ivpState RC P z Lx Ly (p, q) l).2) := by
  simpa only [zero_mul, add_zero] using ivp_linear P z Lx Ly c 0 (p, q) (p, q) l

/-- numerical column: linear in the spectral surface flux (the shooting coefficient is linear in it, whether or not
its denominator, which does not involve the source, vanishes) -/
theorem columnNum_linear (P : Profiles ℝ) (z : ℕ → ℝ) (top : ℕ) (Lx Ly : ℝ) (a b q1 q2 : ℂ) (l : ℕ) :
    columnNum RC P z top Lx Ly (a * q1 + b * q2) l =
      (a * (columnNum RC P z top Lx Ly q1 l).1 + b * (columnNum RC P z top Lx Ly q2 l).1,
       a * (columnNum RC P z top Lx Ly q1 l).2 + b * (columnNum RC P z top Lx Ly q2 l).2) := by
  -- the second sweep starts from `(0, a q̂₁ + b q̂₂)`
  have h := fun m => ivp_linear P z Lx Ly a b ((0.0 : ℂ), q1) ((0.0 : ℂ), q2) m
  simp only [show a * (0.0 : ℂ) + b * (0.0 : ℂ) = 0.0 by norm_num] at h
  simp only [columnNum, alphaShoot, h]
  refine Prod.ext ?_ ?_
  · simp only []
    ring
  · simp only []
    ring

/-- analytic column: linear in the spectral surface flux -/
theorem columnAna_linear (P : Profiles ℝ) (z : ℕ → ℝ) (top : ℕ) (Lx Ly : ℝ) (a b q1 q2 : ℂ) (l : ℕ) :
    columnAna RC P z top Lx Ly (a * q1 + b * q2) l =
      (a * (columnAna RC P z top Lx Ly q1 l).1 + b * (columnAna RC P z top Lx Ly q2 l).1,
       a * (columnAna RC P z top Lx Ly q1 l).2 + b * (columnAna RC P z top Lx Ly q2 l).2) := by
  simp only [columnAna]
  refine Prod.ext ?_ ?_ <;> ring

/-- mean mode: jointly linear in (background, mean surface flux) -/
theorem mean_linear (P : Profiles ℝ) (z : ℕ → ℝ) (top : ℕ) (a b c1 c2 q1 q2 : ℂ) (l : ℕ) :
    meanNum RC P z (a * c1 + b * c2) (a * q1 + b * q2) l
        = a * meanNum RC P z c1 q1 l + b * meanNum RC P z c2 q2 l ∧
    meanAna RC P z top (a * c1 + b * c2) (a * q1 + b * q2) l
        = a * meanAna RC P z top c1 q1 l + b * meanAna RC P z top c2 q2 l := by
  simp only [meanNum, meanAna]
  constructor <;> ring

/-- the background concentration never reaches the flux: every spectral flux
coefficient is the same for two requests that differ only in the background -/
theorem flux_indep_background (req : SolveReq ℝ) (c' : ℝ) (S : ℕ → ℕ → ℂ) (l a b : ℕ) :
    (modeCoef RC { req with bg := c' } (geom RC { req with bg := c' }) S l a b).2
      = (modeCoef RC req (geom RC req) S l a b).2 := by
  unfold modeCoef
  split <;> rfl

/-- the background is a uniform offset: it only enters the `(0,0)` coefficient of the
concentration, additively -/
theorem background_only_in_mean (req : SolveReq ℝ) (c' : ℝ) (S : ℕ → ℕ → ℂ) (l a b : ℕ)
    (hab : ¬(a = 0 ∧ b = 0)) :
    (modeCoef RC { req with bg := c' } (geom RC { req with bg := c' }) S l a b)
      = (modeCoef RC req (geom RC req) S l a b) := by
  unfold modeCoef
  rw [if_neg hab, if_neg hab]
  rfl

theorem background_offset (req : SolveReq ℝ) (c' : ℝ) (S : ℕ → ℕ → ℂ) (l : ℕ)
    (hp : req.precision = .double) :
    (modeCoef RC { req with bg := c' } (geom RC { req with bg := c' }) S l 0 0).1
      = (modeCoef RC req (geom RC req) S l 0 0).1 + ((c' : ℂ) - (req.bg : ℂ)) := by
  simp only [modeCoef, storeP_RC, and_self, if_true, meanNum, meanAna, RC_ofReal]
  split <;> ring

/-! a shooting denominator that is non-zero: `q₁ - Kz λ p₁` after no layer, with `λ = 1` -/
example : ∃ (P : Profiles ℝ) (z : ℕ → ℝ),
    (ivpState RC P z 0 0 ((1.0 : ℂ), (0.0 : ℂ)) 0).2
      - RC.ofReal (P.Kz 0) * (1 : ℂ) * (ivpState RC P z 0 0 ((1.0 : ℂ), (0.0 : ℂ)) 0).1 ≠ 0 := by
  refine ⟨⟨fun _ => 1, fun _ => 1, fun _ => 1, fun _ => 1, fun _ => 1⟩, fun i => i, ?_⟩
  simp only [ivpState, RC]
  norm_num

end BLDFM.C04
