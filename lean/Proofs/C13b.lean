/-
  C13 — the source primitive of the pipeline (`ideal_source`) and `point_measurement` over exact arithmetic:
  diamond and circle sources are indicator fields, every shape is non-negative, the default (centred) source is
  symmetric under the mirror `i ↦ nx-1-i` and `j ↦ ny-1-j`, and `point_measurement` is the plain double sum.
-/
import BLDFM.Source
import Proofs.Lemmas.Spec

open BLDFM BLDFM.Spec

namespace BLDFM.C13

theorem pointMeasurement_eq_sum (ny nx : ℕ) (f g : ℕ → ℕ → ℝ) :
    pointMeasurement ny nx f g = ∑ j ∈ Finset.range ny, ∑ i ∈ Finset.range nx, f j i * g j i := by
  simp only [pointMeasurement, sumN_lit_eq_sum]

theorem pointMeasurement_comm (ny nx : ℕ) (f g : ℕ → ℕ → ℝ) :
    pointMeasurement ny nx f g = pointMeasurement ny nx g f := by
  rw [pointMeasurement_eq_sum, pointMeasurement_eq_sum]
  apply Finset.sum_congr rfl; intro j _
  apply Finset.sum_congr rfl; intro i _
  ring

theorem absR_eq_abs (x : ℝ) : absR x = |x| := by
  rw [absR, show (0.0 : ℝ) = 0 by norm_num]
  split_ifs with h
  · rw [abs_of_neg h]
  · rw [abs_of_nonneg (not_lt.1 h)]

theorem srcCell_nonneg (shape : SrcShape) (xmx dX dY : ℝ) {dx : ℝ} (hdx : 0 < dx) :
    0 ≤ srcCell RC shape xmx dx dX dY := by
  cases shape
  · rw [srcCell]; split_ifs <;> norm_num
  · rw [srcCell]; split_ifs <;> norm_num
  · rw [srcCell, RC_exp, RC_sqrt]
    positivity
  · rw [srcCell]; norm_num

theorem srcCell_neg (shape : SrcShape) (xmx dx dX dY : ℝ) :
    srcCell RC shape xmx dx (-dX) dY = srcCell RC shape xmx dx dX dY ∧
    srcCell RC shape xmx dx dX (-dY) = srcCell RC shape xmx dx dX dY := by
  cases shape <;> simp only [srcCell, absR_eq_abs, abs_neg, neg_sq, and_self]

/-- diamond and circle sources take the values 0 and 1 only -/
theorem idealSource_binary (nx ny : ℕ) (xmx ymx : ℝ) (loc : Option (ℝ × ℝ)) (j i : ℕ) :
    (idealSource RC nx ny xmx ymx loc .diamond j i = 0 ∨ idealSource RC nx ny xmx ymx loc .diamond j i = 1) ∧
    (idealSource RC nx ny xmx ymx loc .circle j i = 0 ∨ idealSource RC nx ny xmx ymx loc .circle j i = 1) := by
  constructor
  · simp only [idealSource, srcCell]; split <;> norm_num
  · simp only [idealSource, srcCell]; split <;> norm_num

/-- every shape is non-negative (any grid, any domain, any centre) -/
theorem idealSource_nonneg (nx ny : ℕ) (xmx ymx : ℝ) (hx : 0 < xmx) (hn : 0 < nx) (loc : Option (ℝ × ℝ)) (shape : SrcShape) (j i : ℕ) :
    0 ≤ idealSource RC nx ny xmx ymx loc shape j i := by
  have hdx : 0 < xmx / RC.natCast nx := by
    rw [RC_natCast]
    exact div_pos hx (Nat.cast_pos.2 hn)
  unfold idealSource
  exact srcCell_nonneg _ _ _ _ hdx

/-- in exact arithmetic the patched last element is on the same line as the others -/
theorem linspaceEnd_eq (stop : ℝ) (n i : ℕ) (hn : 2 ≤ n) : linspaceEnd RC stop n i = i * (stop / ((n : ℝ) - 1)) := by
  have hc : ((n - 1 : ℕ) : ℝ) = (n : ℝ) - 1 := by rw [Nat.cast_sub (by omega), Nat.cast_one]
  have hne : (n : ℝ) - 1 ≠ 0 := by rw [← hc]; exact_mod_cast (show n - 1 ≠ 0 by omega)
  rw [linspaceEnd, if_neg (by omega), RC_natCast, RC_natCast, hc]
  split_ifs with hl
  · rw [← hl, Nat.cast_succ, add_sub_cancel_right, mul_div_cancel₀]
    rwa [← hl, Nat.cast_succ, add_sub_cancel_right] at hne
  · rfl

/-- nodes of `np.linspace(0, stop, n)` are symmetric about `stop/2` -/
theorem linspaceEnd_mirror (stop : ℝ) (n i : ℕ) (hi : i < n) (hn : 2 ≤ n) :
    linspaceEnd RC stop n (n - 1 - i) = stop - linspaceEnd RC stop n i := by
  have hne : (n : ℝ) - 1 ≠ 0 := by
    have : (2 : ℝ) ≤ n := by exact_mod_cast hn
    linarith
  rw [linspaceEnd_eq _ _ _ hn, linspaceEnd_eq _ _ _ hn, Nat.cast_sub (by omega), Nat.cast_sub (by omega), Nat.cast_one,
    sub_mul, mul_div_cancel₀ _ hne]

/-- the default (centred) source is symmetric under the x-mirror and under the y-mirror, for every shape -/
theorem idealSource_centred_symmetric (nx ny : ℕ) (xmx ymx : ℝ) (shape : SrcShape) (j i : ℕ)
    (hi : i < nx) (hj : j < ny) (hnx : 2 ≤ nx) (hny : 2 ≤ ny) :
    idealSource RC nx ny xmx ymx none shape j (nx - 1 - i) = idealSource RC nx ny xmx ymx none shape j i ∧
    idealSource RC nx ny xmx ymx none shape (ny - 1 - j) i = idealSource RC nx ny xmx ymx none shape j i := by
  have ex : linspaceEnd RC xmx nx (nx - 1 - i) - (xmx / 2.0) = -(linspaceEnd RC xmx nx i - xmx / 2.0) := by
    rw [linspaceEnd_mirror xmx nx i hi hnx]; norm_num; ring
  have ey : linspaceEnd RC ymx ny (ny - 1 - j) - (ymx / 2.0) = -(linspaceEnd RC ymx ny j - ymx / 2.0) := by
    rw [linspaceEnd_mirror ymx ny j hj hny]; norm_num; ring
  simp only [idealSource, srcCentre, ex, ey]
  exact ⟨(srcCell_neg ..).1, (srcCell_neg ..).2⟩

end BLDFM.C13
