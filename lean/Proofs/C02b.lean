/-
  C02 (field level) — footprint reciprocity through the whole model pipeline:
  for every surface-flux field, every on-grid tower, every halo (incl. widths that are not a whole
  number of cells), every truncation, every profile set and level, numeric and analytic,

      Σ_{padded grid} q_pad · flux_footprint(tower)  =  flux_dispersion(q) at the tower's cell,

  and the same for the concentration above background.  (`q_pad` vanishes on the halo, so the sum is the sum over
  the input grid.)
-/
import Proofs.C02
import Proofs.C06

open BLDFM BLDFM.Spec BLDFM.Index

namespace BLDFM.C02

/-- footprint reciprocity, whole pipeline, both fields at once.  `rd` is a dispersion request un-centred
(`meas_pt = 0`); the footprint request differs from it only in the mode flag and the on-grid tower `(im·dx, jm·dy)`.
The source-weighted sum of the footprint fields above background is the dispersion field above background at the
tower's cell. -/
theorem footprint_reciprocity (rd : SolveReq ℝ) (hg : GeomOK (geom RC rd)) (hfp : rd.footprint = false)
    (hxm : rd.xm = 0) (hym : rd.ym = 0) (im jm l : ℕ) (hdx : (geom RC rd).dx ≠ 0) (hdy : (geom RC rd).dy ≠ 0) :
    let g := geom RC rd
    let rf : SolveReq ℝ := { rd with footprint := true, xm := im * g.dx, ym := jm * g.dy }
    ∑ J ∈ Finset.range g.nye, ∑ I ∈ Finset.range g.nxe,
        padSrc RC rd g J I • (fieldAt rf g (srcSpectrum RC rf g).get l J I - ((rd.bg : ℂ), (0 : ℂ)))
      = fieldAt rd g (srcSpectrum RC rd g).get l (jm + g.py) (im + g.px) - ((rd.bg : ℂ), (0 : ℂ)) := by
  intro g rf
  -- footprint run: unit spectrum, the shift factor is the phase of the tower's padded-grid cell
  have hf : ∀ J I : ℕ, fieldAt rf g (srcSpectrum RC rf g).get l J I - ((rd.bg : ℂ), (0 : ℂ)) =
      trig (-1) g.nye g.nxe g.nly g.nlx (fun a b =>
        ((rootPow g.nxe (sfreq g.nlx b * ((im + g.px : ℕ) : ℤ)) * rootPow g.nye (sfreq g.nly a * ((jm + g.py : ℕ) : ℤ)))
          / ((g.nye : ℂ) * g.nxe)) • xfer rd g l a b) J I := by
    intro J I
    rw [fieldAt_eq rf g hg, add_sub_cancel_right]
    refine trig_congr (fun a ha b hb => ?_) _ _
    rw [C03.footprint_unit_spectrum rf rfl,
      C06.footprint_phase_on_grid rf rfl a b im jm rfl rfl ha hb hdx hdy hg.Nx_pos hg.Ny_pos,
      mul_one_div, mul_comm (g.nxe : ℂ)]
    have ht : transfer rf g l a b = transfer rd g l a b := transfer_indep_mode rd true rd.q _ _ rd.bg l a b
    have hx : xfer rf g l a b = xfer rd g l a b := by
      unfold xfer
      rw [ht]
    rw [hx]
  -- dispersion run: no shift, the spectrum of the padded source
  have hd : fieldAt rd g (srcSpectrum RC rd g).get l (jm + g.py) (im + g.px) - ((rd.bg : ℂ), (0 : ℂ)) =
      trig 1 g.nye g.nxe g.nly g.nlx (fun a b =>
        (fwd g.nye (fun J => fwd g.nxe (padSrc RC rd g J) (sfreq g.nlx b)) (sfreq g.nly a) / ((g.nye : ℂ) * g.nxe))
          • xfer rd g l a b)
        ((jm + g.py : ℕ) : ℤ) ((im + g.px : ℕ) : ℤ) := by
    rw [fieldAt_eq rd g hg, add_sub_cancel_right, hfp]
    refine trig_congr (fun a ha b hb => ?_) _ _
    rw [C06.recentre_guard_origin rd hfp hxm hym, one_mul, srcSpectrum_fwd rd hg hfp a b ha hb]
  simp only [hf]
  rw [hd]
  exact recip_core _ _ _ _

/-- footprint reciprocity (flux), whole pipeline -/
theorem footprint_reciprocity_flux (rd : SolveReq ℝ) (hg : GeomOK (geom RC rd)) (hfp : rd.footprint = false)
    (hxm : rd.xm = 0) (hym : rd.ym = 0) (im jm l : ℕ) (hdx : (geom RC rd).dx ≠ 0) (hdy : (geom RC rd).dy ≠ 0) :
    let g := geom RC rd
    let rf : SolveReq ℝ := { rd with footprint := true, xm := im * g.dx, ym := jm * g.dy }
    ∑ J ∈ Finset.range g.nye, ∑ I ∈ Finset.range g.nxe,
        padSrc RC rd g J I * (fieldsAt RC rf g (srcSpectrum RC rf g).get l).2.get J I
      = (fieldsAt RC rd g (srcSpectrum RC rd g).get l).2.get (jm + g.py) (im + g.px) := by
  have h := congrArg Prod.snd (footprint_reciprocity rd hg hfp hxm hym im jm l hdx hdy)
  simpa only [Prod.snd_sum, Prod.smul_snd, Prod.snd_sub, smul_eq_mul, fieldAt_snd, sub_zero] using h

/-- … and for the real fields the user sees: `Σ q · footprint = flux_dispersion(tower)` (the source is real) -/
theorem footprint_reciprocity_flux_real (rd : SolveReq ℝ) (hg : GeomOK (geom RC rd)) (hfp : rd.footprint = false)
    (hxm : rd.xm = 0) (hym : rd.ym = 0) (im jm l : ℕ) (hdx : (geom RC rd).dx ≠ 0) (hdy : (geom RC rd).dy ≠ 0) :
    let g := geom RC rd
    let rf : SolveReq ℝ := { rd with footprint := true, xm := im * g.dx, ym := jm * g.dy }
    ∑ J ∈ Finset.range g.nye, ∑ I ∈ Finset.range g.nxe,
        (padSrc RC rd g J I).re * ((fieldsAt RC rf g (srcSpectrum RC rf g).get l).2.get J I).re
      = ((fieldsAt RC rd g (srcSpectrum RC rd g).get l).2.get (jm + g.py) (im + g.px)).re := by
  have h := footprint_reciprocity_flux rd hg hfp hxm hym im jm l hdx hdy
  dsimp only at h ⊢
  rw [← h]
  simp only [Complex.re_sum, padSrc_RC, Complex.re_ofReal_mul, Complex.ofReal_re]

end BLDFM.C02
