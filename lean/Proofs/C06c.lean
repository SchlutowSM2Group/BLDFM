/-
  C06 (point-reflection clause, whole model pipeline) — the footprint for a point is the point reflection, about that
  point, of the response to a unit source placed there.  It is the reciprocity theorem of C02 (applied to a unit source
  at `(j0, i0)`) composed with the source-shift theorem of C06 (moving that unit source to the tower cell).
-/
import Proofs.C06b

open BLDFM BLDFM.Spec BLDFM.Index

namespace BLDFM.C06

/-- the request with a unit source in cell `(j, i)` -/
def impulseAt (r : SolveReq ℝ) (j i : ℕ) : SolveReq ℝ :=
  { r with q := fun j' i' => if j' = j ∧ i' = i then 1 else 0 }

theorem impulse_geom (r : SolveReq ℝ) (j i : ℕ) : geom RC (impulseAt r j i) = geom RC r := rfl

theorem impulse_padSrc (r : SolveReq ℝ) (j i : ℕ) (hj : j < r.ny) (hi : i < r.nx) (J I : ℕ) :
    padSrc RC (impulseAt r j i) (geom RC r) J I = if J = j + (geom RC r).py ∧ I = i + (geom RC r).px then 1 else 0 := by
  unfold padSrc impulseAt
  by_cases hw : (geom RC r).py ≤ J ∧ J < (geom RC r).py + r.ny ∧ (geom RC r).px ≤ I ∧ I < (geom RC r).px + r.nx
  · rw [if_pos hw, RC_ofReal, apply_ite Complex.ofReal, Complex.ofReal_one, Complex.ofReal_zero]
    exact if_congr (by omega) rfl rfl
  · rw [if_neg hw, if_neg (by omega)]
    norm_num

/-- in footprint mode the padded-domain fields do not depend on the source values -/
theorem fields_indep_source (req : SolveReq ℝ) (hfp : req.footprint = true) (q' : ℕ → ℕ → ℝ) (g : Geom ℝ) (l : ℕ) :
    fieldsAt RC { req with q := q' } g (srcSpectrum RC { req with q := q' } g).get l
      = fieldsAt RC req g (srcSpectrum RC req g).get l := by
  have hS : srcSpectrum RC { req with q := q' } g = srcSpectrum RC req g := by
    simp only [srcSpectrum, hfp, if_true]
  rw [hS]
  rfl

theorem sum_cell {Ny Nx a b : ℕ} (ha : a < Ny) (hb : b < Nx) (f : ℕ → ℕ → ℂ) :
    ∑ J ∈ Finset.range Ny, ∑ I ∈ Finset.range Nx, (if J = a ∧ I = b then 1 else 0) * f J I = f a b := by
  rw [sum_single_slot ha hb]
  · rw [if_pos ⟨rfl, rfl⟩, one_mul]
  · intro J _ I _ h
    rw [if_neg h, zero_mul]

theorem roll_index {N J a b : ℕ} {c : ℤ} (hJ : J < N) (ha : a < N) (hb : b < N) (hc : c = (a : ℤ) - b) :
    (((J : ℤ) - c) % N).toNat = b ↔ J = a := by
  subst hc
  have hN : (N : ℤ) ≠ 0 := by omega
  rw [← Int.ofNat_inj, Int.toNat_of_nonneg (Int.emod_nonneg _ hN)]
  constructor
  · intro h
    -- `N ∣ J − a` and `|J − a| < N` force `J = a`
    have hd : (N : ℤ) ∣ (J : ℤ) - a := by
      have := Int.dvd_self_sub_of_emod_eq h
      rwa [show (J : ℤ) - ((a : ℤ) - b) - b = J - a by ring] at this
    have := Int.eq_zero_of_abs_lt_dvd hd (abs_lt.mpr ⟨by omega, by omega⟩)
    omega
  · rintro rfl
    rw [sub_sub_cancel]
    exact Int.emod_eq_of_lt (by omega) (by omega)

/-- the padded unit sources at two cells are cyclic rolls of one another -/
theorem impulse_roll (r0 : SolveReq ℝ) (im jm i0 j0 : ℕ)
    (him : im < r0.nx) (hjm : jm < r0.ny) (hi0 : i0 < r0.nx) (hj0 : j0 < r0.ny) :
    ∀ J I, J < (geom RC r0).nye → I < (geom RC r0).nxe →
      padSrc RC (impulseAt r0 j0 i0) (geom RC r0) J I =
        padSrc RC (impulseAt r0 jm im) (geom RC r0) ((((J : ℤ) - ((j0 : ℤ) - jm)) % (geom RC r0).nye).toNat)
          ((((I : ℤ) - ((i0 : ℤ) - im)) % (geom RC r0).nxe).toNat) := by
  intro J I hJ hI
  have hxe := C11.geom_nxe r0
  have hye := C11.geom_nye r0
  have keyJ : (((J : ℤ) - ((j0 : ℤ) - jm)) % (geom RC r0).nye).toNat = jm + (geom RC r0).py ↔ J = j0 + (geom RC r0).py :=
    roll_index hJ (by omega) (by omega) (by omega)
  have keyI : (((I : ℤ) - ((i0 : ℤ) - im)) % (geom RC r0).nxe).toNat = im + (geom RC r0).px ↔ I = i0 + (geom RC r0).px :=
    roll_index hI (by omega) (by omega) (by omega)
  simp only [impulse_padSrc r0 j0 i0 hj0 hi0, impulse_padSrc r0 jm im hjm him, keyJ, keyI]

/-- C06 point-reflection clause (flux footprint): the footprint of the tower at cell `(jm, im)`, read at `(j0, i0)`, is the
flux response to the unit source at `(jm, im)` read at `(2 jm − j0, 2 im − i0)`, cyclically on the padded grid -/
theorem footprint_point_reflection (r0 : SolveReq ℝ) (hg : GeomOK (geom RC r0)) (hp : r0.precision = .double)
    (hden : C02.DenOK r0) (hfp : r0.footprint = false) (hxm : r0.xm = 0) (hym : r0.ym = 0)
    (hdx : (geom RC r0).dx ≠ 0) (hdy : (geom RC r0).dy ≠ 0)
    (im jm i0 j0 l : ℕ) (him : im < r0.nx) (hjm : jm < r0.ny) (hi0 : i0 < r0.nx) (hj0 : j0 < r0.ny)
    (J' I' : ℕ) (tx ty : ℤ)
    (hI : ((im + (geom RC r0).px : ℕ) : ℤ) - ((i0 : ℤ) - im) = I' + (geom RC r0).nxe * tx)
    (hJ : ((jm + (geom RC r0).py : ℕ) : ℤ) - ((j0 : ℤ) - jm) = J' + (geom RC r0).nye * ty) :
    let g := geom RC r0
    let rf : SolveReq ℝ := { r0 with footprint := true, xm := im * g.dx, ym := jm * g.dy }
    let ru := impulseAt r0 jm im
    (fieldsAt RC rf g (srcSpectrum RC rf g).get l).2.get (j0 + g.py) (i0 + g.px)
      = (fieldsAt RC ru g (srcSpectrum RC ru g).get l).2.get J' I' := by
  intro g rf ru
  have hI0 : i0 + (geom RC r0).px < (geom RC r0).nxe := by
    rw [C11.geom_nxe]
    omega
  have hJ0 : j0 + (geom RC r0).py < (geom RC r0).nye := by
    rw [C11.geom_nye]
    omega
  -- reciprocity for the unit source at `(j0, i0)`: the weighted sum picks the cell `(j0 + py, i0 + px)` of the footprint
  have recp := C02.footprint_reciprocity_flux (impulseAt r0 j0 i0) hg hfp hxm hym im jm l hdx hdy
  simp only [impulse_geom, impulse_padSrc r0 j0 i0 hj0 hi0] at recp
  rw [sum_cell hJ0 hI0] at recp
  rw [← fields_indep_source rf rfl (impulseAt r0 j0 i0).q g l]
  -- move the unit source from `(j0, i0)` to the tower cell
  exact recp.trans (source_shift_field ru (impulseAt r0 j0 i0) rfl rfl hg hp hden hfp ((i0 : ℤ) - im) ((j0 : ℤ) - jm)
    (impulse_roll r0 im jm i0 j0 him hjm hi0 hj0) l (jm + g.py) (im + g.px) J' I' tx ty hI hJ).2

end BLDFM.C06
