/-
  C09 — the stability correction is the integral of the flux-gradient function:
        ψ(x) = ∫₀ˣ (φ_M(t) − 1)/t dt        (unstable x < 0:  φ_M = (1 − 16 t)^{-1/4};  stable x > 0:  φ_M = 1 + 5 t),
  the integrand continued at `t = 0⁻` by its limit: the quotient is the slope of `φ_M` from neutral and tends to `φ_M'(0) = 4`.
  By the fundamental theorem of calculus on `[x, 0]`: `ψ` is continuous up to neutral (`psi_continuousAt_zero`) and has the
  derivative `(φ_M − 1)/t` inside (`psi_deriv_unstable`).
-/
import Proofs.C09b
import Mathlib.MeasureTheory.Integral.IntervalIntegral.FundThmCalculus
import Mathlib.Analysis.Calculus.DSlope

open BLDFM BLDFM.Spec Set

namespace BLDFM.C09

/-- momentum flux-gradient function on the unstable side -/
noncomputable def phiM (t : ℝ) : ℝ := (1 - 16 * t) ^ (-(1 : ℝ) / 4)

/-- the integrand `(φ_M(t) − 1)/t`, continued by its limit at neutral -/
noncomputable def fluxGradIntegrand (t : ℝ) : ℝ := if t = 0 then 4 else (phiM t - 1) / t

theorem phiM_hasDerivAt_zero : HasDerivAt phiM 4 0 :=
  (hasDerivAt_one_sub_rpow (-(1 : ℝ) / 4) (by norm_num)).congr_deriv (by norm_num)

theorem fluxGradIntegrand_eq_dslope : fluxGradIntegrand = dslope phiM 0 := by
  funext t
  by_cases h : t = 0
  · rw [h, dslope_same, phiM_hasDerivAt_zero.deriv, fluxGradIntegrand, if_pos rfl]
  · rw [dslope_of_ne _ h, slope_def_field, fluxGradIntegrand, if_neg h]; simp [phiM]

theorem fluxGradIntegrand_continuousOn (x : ℝ) : ContinuousOn fluxGradIntegrand (Icc x 0) := by
  intro t ht
  refine ContinuousAt.continuousWithinAt ?_
  rw [fluxGradIntegrand_eq_dslope]
  rcases ht.2.eq_or_lt with rfl | hneg
  · exact continuousAt_dslope_same.2 phiM_hasDerivAt_zero.differentiableAt
  · exact (continuousAt_dslope_of_ne hneg.ne).2 (hasDerivAt_one_sub_rpow _ (by linarith)).continuousAt

/-- **unstable side: the stability correction is the integral of the flux-gradient function** -/
theorem psi_integral_unstable (x : ℝ) (hx : x ≤ 0) : psi RC x = ∫ t in (0 : ℝ)..x, fluxGradIntegrand t := by
  rw [intervalIntegral.integral_symm]
  have hcont : ContinuousOn (psi RC) (Icc x 0) := by
    intro t ht
    rcases ht.2.eq_or_lt with h0 | hneg
    · subst h0; exact psi_continuousAt_zero.continuousWithinAt
    · exact (psi_deriv_unstable t hneg).continuousAt.continuousWithinAt
  have hderiv : ∀ t ∈ Ioo x 0, HasDerivAt (psi RC) (fluxGradIntegrand t) t := fun t ht => by
    simpa [fluxGradIntegrand, ht.2.ne, phiM] using psi_deriv_unstable t ht.2
  have hint : IntervalIntegrable fluxGradIntegrand MeasureTheory.volume x 0 :=
    (fluxGradIntegrand_continuousOn x).intervalIntegrable_of_Icc hx
  rw [intervalIntegral.integral_eq_sub_of_hasDerivAt_of_le hx hcont hderiv hint, psi_zero]
  ring

/-- the integrand on the stable side, `(φ_M(t) − 1)/t` with `φ_M = 1 + 5t` (continued by its value 5 at neutral) -/
noncomputable def fluxGradIntegrandStable (t : ℝ) : ℝ := if t = 0 then 5 else ((1 + 5 * t) - 1) / t

theorem fluxGradIntegrandStable_eq (t : ℝ) : fluxGradIntegrandStable t = 5 := by
  by_cases h : t = 0
  · simp [fluxGradIntegrandStable, h]
  · rw [fluxGradIntegrandStable, if_neg h, add_sub_cancel_left, mul_div_cancel_right₀ _ h]

/-- stable side: `ψ(x) = 5x = ∫₀ˣ (φ_M − 1)/t dt` -/
theorem psi_integral_stable (x : ℝ) (hx : 0 ≤ x) : psi RC x = ∫ t in (0 : ℝ)..x, fluxGradIntegrandStable t := by
  have hval : psi RC x = 5 * x := by
    rcases hx.eq_or_lt with h0 | hpos
    · rw [← h0, psi_zero, mul_zero]
    · exact psi_of_pos hpos
  rw [hval, funext fluxGradIntegrandStable_eq, intervalIntegral.integral_const]
  simp [mul_comm]

/-! non-vacuity: at `x = -1` the integrand is the slope of `(1 + 16)^{-1/4}` -/
example : fluxGradIntegrand (-1) = ((17 : ℝ) ^ (-(1 : ℝ) / 4) - 1) / (-1) := by
  simp [fluxGradIntegrand, phiM]; norm_num

end BLDFM.C09
