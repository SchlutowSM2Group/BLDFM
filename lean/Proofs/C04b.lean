/-
  C04 (field level) — through the whole model pipeline the padded-domain concentration and flux fields of a
  dispersion run are a linear function of the pair (surface-flux field, background concentration); a footprint run
  does not read the source values at all.
-/
import Proofs.C02b
import Proofs.C11

open BLDFM BLDFM.Spec BLDFM.Index

namespace BLDFM.C04

/-- concentration coefficient = source coefficient × transfer (+ the background in the mean mode) -/
theorem conc_coef (req : SolveReq ℝ) (g : Geom ℝ) (S : ℕ → ℕ → ℂ) (l a b : ℕ) :
    (modeCoef RC req g S l a b).1 =
      S a b * (C02.xfer req g l a b).1 + (if a = 0 ∧ b = 0 then (req.bg : ℂ) else 0) := by
  rw [C02.modeCoef_eq]
  split <;> simp

/-- two requests that differ only in the source values and the background -/
def SameButSource (r r' : SolveReq ℝ) : Prop :=
  r' = { r with q := r'.q, bg := r'.bg }

theorem fieldAt_sameButSource (r r' : SolveReq ℝ) (h : SameButSource r r') (g : Geom ℝ) (hg : GeomOK g)
    (S : ℕ → ℕ → ℂ) (l J I : ℕ) :
    fieldAt r' g S l J I =
      trig (sgnZ r.footprint) g.nye g.nxe g.nly g.nlx
          (fun a b => (shiftFactor RC r g a b * S a b) • C02.xfer r g l a b) J I
        + ((r'.bg : ℂ), 0) := by
  obtain ⟨q', b', rfl⟩ : ∃ q' b', r' = { r with q := q', bg := b' } := ⟨_, _, h⟩
  have hsh : shiftFactor RC ({ r with q := q', bg := b' } : SolveReq ℝ) g = shiftFactor RC r g := rfl
  have hx : C02.xfer ({ r with q := q', bg := b' } : SolveReq ℝ) g l = C02.xfer r g l := rfl
  rw [C02.fieldAt_eq _ g hg, hsh, hx]

/-- whole-pipeline linearity (dispersion mode): if `q₃ = α q₁ + β q₂` cell by cell and `bg₃ = α bg₁ + β bg₂`, then
at every level and every cell of the padded domain both fields of request 3 are the same combination of the
fields of requests 1 and 2 — for every halo, truncation, parity, profile set, numeric and analytic -/
theorem solve_linear (r1 r2 r3 : SolveReq ℝ) (h12 : SameButSource r1 r2) (h13 : SameButSource r1 r3)
    (hg : GeomOK (geom RC r1)) (hp : r1.precision = .double) (hden : C02.DenOK r1) (hfp : r1.footprint = false)
    (α β : ℝ) (hq : ∀ j i, r3.q j i = α * r1.q j i + β * r2.q j i) (hbg : r3.bg = α * r1.bg + β * r2.bg)
    (l J I : ℕ) :
    let g := geom RC r1
    let F := fun (r : SolveReq ℝ) => fieldsAt RC r g (srcSpectrum RC r g).get l
    (F r3).1.get J I = (α : ℂ) * (F r1).1.get J I + (β : ℂ) * (F r2).1.get J I ∧
    (F r3).2.get J I = (α : ℂ) * (F r1).2.get J I + (β : ℂ) * (F r2).2.get J I := by
  intro g F
  -- requests 2 and 3 are request 1 with source and background replaced; everything else is shared by `rfl`
  obtain ⟨q2, b2, rfl⟩ : ∃ q2 b2, r2 = { r1 with q := q2, bg := b2 } := ⟨_, _, h12⟩
  obtain ⟨q3, b3, rfl⟩ : ∃ q3 b3, r3 = { r1 with q := q3, bg := b3 } := ⟨_, _, h13⟩
  set r2 : SolveReq ℝ := { r1 with q := q2, bg := b2 }
  set r3 : SolveReq ℝ := { r1 with q := q3, bg := b3 }
  -- the padded source is linear in the source, hence the truncated spectrum
  have hpad : padSrc RC r3 g = fun J I => (α : ℂ) * padSrc RC r1 g J I + (β : ℂ) * padSrc RC r2 g J I := by
    funext J I
    simp only [padSrc_RC]
    split
    · rw [hq]
      push_cast
      rfl
    · simp
  have hS : ∀ a, a < g.nly → ∀ b, b < g.nlx → (srcSpectrum RC r3 g).get a b =
      (α : ℂ) * (srcSpectrum RC r1 g).get a b + (β : ℂ) * (srcSpectrum RC r2 g).get a b := by
    intro a ha b hb
    rw [C02.srcSpectrum_fwd r1 hg hfp a b ha hb, C02.srcSpectrum_fwd r2 hg hfp a b ha hb,
      C02.srcSpectrum_fwd r3 hg hfp a b ha hb, hpad]
    simp only [fwd_add, fwd_const_mul]
    ring
  have key : fieldAt r3 g (srcSpectrum RC r3 g).get l J I =
      (α : ℂ) • fieldAt r1 g (srcSpectrum RC r1 g).get l J I + (β : ℂ) • fieldAt r2 g (srcSpectrum RC r2 g).get l J I := by
    rw [fieldAt_sameButSource r1 r3 h13 g hg, fieldAt_sameButSource r1 r2 h12 g hg, C02.fieldAt_eq r1 g hg,
      smul_add, smul_add, ← trig_smul, ← trig_smul, add_add_add_comm, ← trig_add, show r3.bg = _ from hbg]
    -- (`congr 1` finds the same two goals, slowly)
    refine congrArg₂ (· + ·) (trig_congr (fun a ha b hb => ?_) _ _) ?_
    · rw [hS a ha b hb]
      simp only [smul_smul, ← add_smul]
      congr 1
      ring
    · refine Prod.ext ?_ ?_ <;> simp
  exact ⟨by simpa using congrArg Prod.fst key, by simpa using congrArg Prod.snd key⟩

/-- in footprint mode the result does not depend on the values of the surface-flux array at all (the whole
pipeline): only its shape `(ny, nx)` enters -/
theorem footprint_indep_source_values (req : SolveReq ℝ) (q' : ℕ → ℕ → ℝ)
    (hfp : req.footprint = true) :
    solve RC { req with q := q' } = solve RC req := by
  have hs : srcSpectrum RC { req with q := q' } (geom RC req) = srcSpectrum RC req (geom RC req) := by
    unfold srcSpectrum
    rw [if_pos hfp, if_pos (show ({ req with q := q' } : SolveReq ℝ).footprint = true from hfp)]
  have hok : solveOk RC { req with q := q' } = solveOk RC req :=
    C11.solveOk_congr rfl rfl rfl rfl rfl (fun l => by rw [hs]; rfl)
  have he : solveErr ({ req with q := q' } : SolveReq ℝ) = solveErr req := rfl
  unfold solve
  rw [he, hok]

end BLDFM.C04
