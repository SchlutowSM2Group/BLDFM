/-
  C14 — timeseries, multi-tower and parallel drivers return, for every tower and step, the
  corresponding single run: for every parallel strategy and every schedule, i.e. every order in which
  the tasks complete.  Which worker runs a task, and how many workers there are, is not part of the model:
  a task's result does not depend on the state its worker inherited (`worker_state_irrelevant`, from C12).
-/
import BLDFM.Interface
import Proofs.C12
import Mathlib.Data.List.Basic
import Mathlib.Order.Nat

open BLDFM

namespace BLDFM.C14

variable {α β : Type}

theorem poolStep_length (f : α → β) (tasks : List α) (slots : List (Option β)) (j : ℕ) :
    (poolStep f tasks slots j).length = slots.length := by
  unfold poolStep
  split
  · exact List.length_set
  · rfl

theorem poolStep_getElem? (f : α → β) (tasks : List α) (slots : List (Option β)) (j : ℕ)
    (hlen : slots.length = tasks.length) (i : ℕ) :
    (poolStep f tasks slots j)[i]? = if i = j then tasks[i]?.map (fun t => some (f t)) else slots[i]? := by
  unfold poolStep
  split_ifs with hij
  · subst hij
    rcases lt_or_ge i tasks.length with hi | hi <;> simp [hlen, hi]
  · split
    · exact List.getElem?_set_ne (Ne.symm hij)
    · rfl

/-- the slot array after processing a schedule prefix: slot `i` holds the result of task `i` iff
task `i` has completed -/
theorem fold_slots (f : α → β) (tasks : List α) (sched : List ℕ) (slots : List (Option β))
    (hlen : slots.length = tasks.length) (i : ℕ) :
    (sched.foldl (poolStep f tasks) slots)[i]? =
      if i ∈ sched then tasks[i]?.map (fun t => some (f t)) else slots[i]? := by
  induction sched generalizing slots with
  | nil => simp
  | cons j js ih =>
    rw [List.foldl_cons, ih _ ((poolStep_length ..).trans hlen), poolStep_getElem? f tasks slots j hlen i]
    by_cases hij : i = j
    · simp [hij]
    · by_cases hmem : i ∈ js
      · simp [hij, hmem]
      · simp [hij, hmem]

/-- `Executor.map` semantics: for every schedule in which every task completes (any completion order, repeats
allowed), the results come back in submission order and each is `f` of its own task -/
theorem poolMap_eq_map (f : α → β) (tasks : List α) (sched : List ℕ)
    (hall : ∀ i, i < tasks.length → i ∈ sched) :
    poolMap f tasks sched = tasks.map (fun t => some (f t)) := by
  apply List.ext_getElem?
  intro i
  rw [poolMap, fold_slots f tasks sched _ (by simp) i, List.getElem?_map, List.getElem?_map]
  split_ifs with hm
  · rfl
  · rw [List.getElem?_eq_none (not_lt.1 fun hi => hm (hall i hi))]
    rfl

/-- strategy "both": regrouping the flattened `(tower, step)` list by `n_time` returns the nested one,
for every number of towers and steps -/
theorem regroup_flatten (nTime : ℕ) (ls : List (List β)) (h : ∀ l ∈ ls, l.length = nTime) :
    regroup nTime ls.flatten ls.length = ls := by
  induction ls with
  | nil => rfl
  | cons l ls ih =>
    obtain ⟨hl, h'⟩ := List.forall_mem_cons.1 h
    simp only [List.flatten_cons, List.length_cons, regroup]
    rw [← hl, List.take_left, List.drop_left, hl, ih h']

theorem regroup_poolMap {τ γ : Type} (ts : List τ) (nTime : ℕ) (g : τ → ℕ → γ) (sched : List ℕ)
    (hall : ∀ i, i < (ts.flatMap (fun t => (List.range nTime).map (fun i => (t, i)))).length → i ∈ sched) :
    regroup nTime (poolMap (fun (p : τ × ℕ) => g p.1 p.2)
        (ts.flatMap (fun t => (List.range nTime).map (fun i => (t, i)))) sched) ts.length =
      ts.map (fun t => (List.range nTime).map (fun i => some (g t i))) := by
  have hflat : (ts.flatMap (fun t => (List.range nTime).map (fun i => (t, i)))).map (fun p => some (g p.1 p.2)) =
      (ts.map (fun t => (List.range nTime).map (fun i => some (g t i)))).flatten := by
    simp [List.flatMap_def, Function.comp_def]
  have h := regroup_flatten nTime (ts.map (fun t => (List.range nTime).map (fun i => some (g t i))))
    (by simp)
  rw [List.length_map] at h
  rwa [poolMap_eq_map _ _ sched hall, hflat]

/-- the result of a pool task does not depend on the state the worker inherited from the parent
(C12: the workers' reset is canonical) -/
theorem worker_state_irrelevant (parent parent' : RtState) (r : RtSolve) :
    solveOut (rtStep parent .workerReset).1 r = solveOut (rtStep parent' .workerReset).1 r := by
  rw [C12.worker_solve_eq_fresh, C12.worker_solve_eq_fresh]

/-- timeseries = the single runs, listed in time order, one per step -/
theorem timeseries_eq_singles (dom : DomainCfg) (sol : SolverCfg) (met : MetCfg) (tower : TowerCfg)
    (flux cache : Option V) :
    runTimeseries dom sol met tower flux cache =
      (List.range met.nTimesteps).map (fun i => runSingle dom sol met tower i flux cache) ∧
    (runTimeseries dom sol met tower flux cache).length = met.nTimesteps := by
  simp [runTimeseries]

/-- multi-tower = for every tower, in configuration order, its name and its time series -/
theorem multitower_eq_singles (dom : DomainCfg) (sol : SolverCfg) (met : MetCfg) (towers : List TowerCfg)
    (flux cache : Option V) (k : ℕ) (hk : k < towers.length) :
    (runMultitower dom sol met towers flux cache)[k]? =
      some (towers[k].name, runTimeseries dom sol met towers[k] flux cache) := by
  simp [runMultitower, hk]

/-- parallel strategy "both" over the real single run: for any schedule, flatten + pool + regroup returns the
multi-tower result, every entry wrapped in `some` -/
theorem parallel_both_eq_multitower (dom : DomainCfg) (sol : SolverCfg) (met : MetCfg) (towers : List TowerCfg)
    (sched : List ℕ)
    (hall : ∀ i, i < (towers.flatMap (fun t => (List.range met.nTimesteps).map (fun i => (t, i)))).length → i ∈ sched) :
    let tasks := towers.flatMap (fun t => (List.range met.nTimesteps).map (fun i => (t, i)))
    let flat := poolMap (fun (p : TowerCfg × ℕ) => runSingle dom sol met p.1 p.2 none none) tasks sched
    regroup met.nTimesteps flat towers.length =
      towers.map (fun t => (runTimeseries dom sol met t none none).map some) := by
  intro tasks flat
  simp only [runTimeseries, List.map_map, Function.comp_def]
  exact regroup_poolMap towers met.nTimesteps (fun t i => runSingle dom sol met t i none none) sched hall

/-- the serial reference in the shape the parallel driver returns -/
def serialRef {γ : Type} (towers : List TowerCfg) (nTime : ℕ) (single : TowerCfg → ℕ → γ) :
    List (V × List (Option γ)) :=
  towers.map (fun t => (t.name, (List.range nTime).map (fun i => some (single t i))))

/-- parallel = serial for every strategy and every schedule in which all tasks complete: keyed by tower
name in configuration order, listed in time order.  The bound on `i` in `hall` covers the task count of each strategy:
towers, steps, towers × steps -/
theorem parallel_eq_serial {γ : Type} (strategy : Strategy) (hs : strategy ≠ .invalid) (towers : List TowerCfg)
    (nTime : ℕ) (single : TowerCfg → ℕ → γ) (sched : List ℕ)
    (hall : ∀ i, i < max (towers.length * nTime) (max towers.length nTime) → i ∈ sched) :
    runParallel strategy towers nTime single sched = .ok (serialRef towers nTime single) := by
  cases strategy with
  | invalid => exact absurd rfl hs
  | towers =>
    simp only [runParallel, serialRef]
    rw [poolMap_eq_map _ towers sched (fun i hi => hall i (by omega))]
    simp [List.filterMap_map]
  | time =>
    have hr : ∀ i, i < (List.range nTime).length → i ∈ sched := fun i hi =>
      hall i (by rw [List.length_range] at hi; omega)
    simp only [runParallel, serialRef, poolMap_eq_map _ _ sched hr]
  | both =>
    have hlen : (towers.flatMap (fun t => (List.range nTime).map (fun i => (t, i)))).length = towers.length * nTime := by
      simp [List.length_flatMap]
    simp only [runParallel, serialRef]
    rw [regroup_poolMap towers nTime single sched (fun i hi => hall i (by rw [hlen] at hi; omega)),
      ← List.map_prod_left_eq_zip, List.map_map]
    rfl

/-- an unknown strategy is rejected -/
theorem invalid_strategy_rejected {γ : Type} (towers : List TowerCfg) (nTime : ℕ) (single : TowerCfg → ℕ → γ)
    (sched : List ℕ) : runParallel Strategy.invalid towers nTime single sched = .error .valueError := rfl

/-! non-vacuity: three tasks, completion order 2, 0, 1 -/
example : poolMap (fun x : ℕ => x * 10) [1, 2, 3] [2, 0, 1] = [some 10, some 20, some 30] := by decide

end BLDFM.C14
