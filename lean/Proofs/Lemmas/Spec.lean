/-
  Specification instance of the generic model: `R := ℝ`, `C := ℂ`, with Mathlib's
  functions.  All property theorems are stated on `… (F := RC)` or on the purely
  algebraic kernels at ℂ.
-/
import BLDFM.Solver
import Mathlib.Analysis.SpecialFunctions.Pow.Real
import Mathlib.Analysis.SpecialFunctions.Trigonometric.Arctan
import Mathlib.Analysis.SpecialFunctions.Complex.Arg
import Mathlib.Analysis.SpecialFunctions.Sqrt
import Mathlib.Analysis.SpecialFunctions.Pow.Complex
import Mathlib.Analysis.SpecialFunctions.Gamma.Basic

open BLDFM

namespace BLDFM.Spec

/-- exact-arithmetic instance of the function record -/
noncomputable def RC : Fns ℝ ℂ where
  ofReal := Complex.ofReal
  I := Complex.I
  re := Complex.re
  cexp := Complex.exp
  csqrt := fun z => z ^ ((1:ℂ) / 2)
  exp := Real.exp
  log := Real.log
  sqrt := Real.sqrt
  sin := Real.sin
  cos := Real.cos
  arctan := Real.arctan
  arctan2 := fun y x => Complex.arg ⟨x, y⟩
  rpow := fun x y => x ^ y
  pi := Real.pi
  gamma := Real.Gamma
  nan := 0
  natCast := fun n => (n : ℝ)
  truncNat := fun x => ⌊x⌋₊
  store32 := id

/-! field projections of `RC` (so that proofs need not unfold `RC` inside `geom RC req`) -/
theorem RC_ofReal (x : ℝ) : RC.ofReal x = (x : ℂ) := rfl
theorem RC_I : RC.I = Complex.I := rfl
theorem RC_re (z : ℂ) : RC.re z = z.re := rfl
theorem RC_cexp (z : ℂ) : RC.cexp z = Complex.exp z := rfl
theorem RC_exp (x : ℝ) : RC.exp x = Real.exp x := rfl
theorem RC_log (x : ℝ) : RC.log x = Real.log x := rfl
theorem RC_sqrt (x : ℝ) : RC.sqrt x = Real.sqrt x := rfl
theorem RC_sin (x : ℝ) : RC.sin x = Real.sin x := rfl
theorem RC_cos (x : ℝ) : RC.cos x = Real.cos x := rfl
theorem RC_arctan (x : ℝ) : RC.arctan x = Real.arctan x := rfl
theorem RC_rpow (x y : ℝ) : RC.rpow x y = x ^ y := rfl
theorem RC_pi : RC.pi = Real.pi := rfl
theorem RC_natCast (n : ℕ) : RC.natCast n = (n : ℝ) := rfl
theorem RC_truncNat (x : ℝ) : RC.truncNat x = ⌊x⌋₊ := rfl
theorem RC_store32 (z : ℂ) : RC.store32 z = z := rfl
theorem RC_gamma (x : ℝ) : RC.gamma x = Real.Gamma x := rfl
theorem RC_arctan2 (y x : ℝ) : RC.arctan2 y x = Complex.arg ⟨x, y⟩ := rfl

/-- rewrite applied `RC` projections to Mathlib's functions without unfolding `RC` where
it is merely passed along -/
macro "rc_norm" : tactic =>
  `(tactic| simp only [RC_ofReal, RC_I, RC_re, RC_cexp, RC_exp, RC_log, RC_sqrt, RC_sin, RC_cos,
      RC_arctan, RC_arctan2, RC_rpow, RC_pi, RC_natCast, RC_truncNat, RC_store32, RC_gamma])

theorem storeP_RC (req : SolveReq ℝ) (c : ℂ) : storeP RC req c = c := by
  unfold storeP
  split <;> rfl

theorem padSrc_RC (req : SolveReq ℝ) (g : Geom ℝ) (j i : ℕ) :
    padSrc RC req g j i =
      ((if g.py ≤ j ∧ j < g.py + req.ny ∧ g.px ≤ i ∧ i < g.px + req.nx then req.q (j - g.py) (i - g.px) else 0 : ℝ) : ℂ) := by
  unfold padSrc
  split
  · rfl
  · norm_num

theorem Tcoef_RC (P : Profiles ℝ) (Lx Ly : ℝ) (i : ℕ) :
    Tcoef RC P Lx Ly i =
      -((P.Kx i * Lx ^ 2 + P.Ky i * Ly ^ 2 : ℝ) : ℂ) - Complex.I * ((P.u i * Lx + P.v i * Ly : ℝ) : ℂ) := by
  simp only [Tcoef, RC_ofReal, RC_I]
  push_cast
  ring

theorem Tcoef_im (P : Profiles ℝ) (Lx Ly : ℝ) (i : ℕ) : (Tcoef RC P Lx Ly i).im = -(P.u i * Lx + P.v i * Ly) := by
  rw [Tcoef_RC, Complex.sub_im, Complex.neg_im, Complex.ofReal_im, Complex.I_mul_im, Complex.ofReal_re, neg_zero,
    zero_sub]

/-- the model's `Kzinv = 1.0 / Kz` (layer loop, analytic branch) as `RC_ofReal` leaves it -/
theorem ofReal_lit_one_div (x : ℝ) : ((1.0 / x : ℝ) : ℂ) = 1 / (x : ℂ) := by
  rw [show (1.0 : ℝ) = 1 by norm_num, Complex.ofReal_div, Complex.ofReal_one]

theorem sumN_eq_sum {α : Type} [AddCommMonoid α] (n : ℕ) (f : ℕ → α) :
    sumN (0 : α) n f = ∑ i ∈ Finset.range n, f i := by
  induction n with
  | zero => simp [sumN]
  | succ n ih => simp [sumN, ih, Finset.sum_range_succ]

/-- … with the model's literal `0.0` as the starting value (`dft1`, `resistNum`, `pointMeasurement`) -/
theorem sumN_lit_eq_sum {α : Type} [DivisionRing α] [CharZero α] (n : ℕ) (f : ℕ → α) :
    sumN (0.0 : α) n f = ∑ i ∈ Finset.range n, f i := by
  rw [show (0.0 : α) = 0 by norm_num, sumN_eq_sum]

@[simp] theorem Tab1.get_tab {α : Type} (n : ℕ) (f : ℕ → α) (i : ℕ) :
    (Tab1.tab n f).get i = f i := by
  unfold Tab1.get Tab1.tab
  split
  · simp
  · rfl

@[simp] theorem Tab2.get_tab {α : Type} (ny nx : ℕ) (f : ℕ → ℕ → α) (j i : ℕ) :
    (Tab2.tab ny nx f).get j i = f j i := by
  unfold Tab2.get Tab2.tab
  split
  · rename_i h
    simp only [Array.getElem_ofFn]
    have h1 : i < nx := h.1
    rw [Nat.mul_comm, Nat.mul_add_div (by omega), Nat.div_eq_of_lt h1, Nat.add_zero,
      Nat.mul_add_mod, Nat.mod_eq_of_lt h1]
  · rfl

/-- … as an equality of functions (for a table that is handed on, as `dft2` is handed the un-truncated spectrum) -/
theorem Tab2.get_tab_eq {α : Type} (ny nx : ℕ) (f : ℕ → ℕ → α) : (Tab2.tab ny nx f).get = f :=
  funext fun j => funext (Tab2.get_tab ny nx f j)

/-- the model reads level `k` of the request as `levels.toArray.getD k 0` -/
theorem getD_toArray (lv : List ℕ) (k : ℕ) (hk : k < lv.length) : lv.toArray.getD k 0 = lv[k] := by
  simp [Array.getD, hk]

end BLDFM.Spec
