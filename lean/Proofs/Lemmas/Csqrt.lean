/-
  Principal complex square root as used by the model (`RC.csqrt w = w ^ (1/2)`): its square, its polar form
  `√|w| · e^{i arg w / 2}`, and what follows from that (right half plane, scaling by a positive real); the model's
  decaying wavenumber `eigval` as such a root.
-/
import Proofs.Lemmas.Spec

open BLDFM BLDFM.Spec

namespace BLDFM.Spec

theorem csqrt_def (w : ℂ) : RC.csqrt w = w ^ ((1 : ℂ) / 2) := rfl

theorem csqrt_sq (w : ℂ) : (RC.csqrt w) ^ 2 = w := by
  rw [csqrt_def, one_div]
  exact Complex.cpow_ofNat_inv_pow w 2

theorem csqrt_zero : RC.csqrt 0 = 0 := by
  simp [csqrt_def]

theorem csqrt_polar (w : ℂ) :
    RC.csqrt w = (√‖w‖ : ℝ) * (Real.cos (Complex.arg w / 2) + Real.sin (Complex.arg w / 2) * Complex.I) := by
  have h := Complex.cpow_ofReal w (1 / 2)
  rw [← Real.sqrt_eq_rpow, mul_one_div] at h
  rw [← h, csqrt_def]
  norm_num

theorem csqrt_re (w : ℂ) : (RC.csqrt w).re = √‖w‖ * Real.cos (Complex.arg w / 2) := by
  rw [csqrt_polar]
  simp only [Complex.re_ofReal_mul, Complex.add_re, Complex.ofReal_re, Complex.I_re, mul_zero, add_zero]

/-- the principal root lies in the closed right half plane: the continuation
`exp(-λ (z - z_top))` above the top node does not grow -/
theorem csqrt_re_nonneg (w : ℂ) : 0 ≤ (RC.csqrt w).re := by
  rw [csqrt_re]
  refine mul_nonneg (Real.sqrt_nonneg _) (Real.cos_nonneg_of_mem_Icc ⟨?_, ?_⟩)
  · linarith [Complex.neg_pi_lt_arg w]
  · linarith [Complex.arg_le_pi w, Real.pi_pos]

/-- the root is strictly decaying unless the radicand is a non-positive real -/
theorem csqrt_re_pos (w : ℂ) (hw : w ≠ 0) (harg : Complex.arg w ≠ Real.pi) : 0 < (RC.csqrt w).re := by
  rw [csqrt_re]
  refine mul_pos (Real.sqrt_pos.2 (norm_pos_iff.2 hw)) (Real.cos_pos_of_mem_Ioo ⟨?_, ?_⟩)
  · linarith [Complex.neg_pi_lt_arg w]
  · linarith [lt_of_le_of_ne (Complex.arg_le_pi w) harg]

theorem csqrt_div_sq (w : ℂ) (s : ℝ) (hs : 0 < s) :
    RC.csqrt (w / (s : ℂ) ^ 2) = RC.csqrt w / (s : ℂ) := by
  have harg : Complex.arg (w / (s : ℂ) ^ 2) = Complex.arg w := by
    rw [div_eq_mul_inv, ← Complex.ofReal_pow, ← Complex.ofReal_inv, Complex.arg_mul_real (by positivity)]
  rw [csqrt_polar, csqrt_polar, harg, norm_div, norm_pow, Complex.norm_real, Real.norm_of_nonneg hs.le,
    Real.sqrt_div (norm_nonneg w), Real.sqrt_sq hs.le, Complex.ofReal_div]
  ring

theorem eigval_eq_Tcoef (P : Profiles ℝ) (top : ℕ) (Lx Ly : ℝ) :
    eigval RC P top Lx Ly = RC.csqrt (-Tcoef RC P Lx Ly top / (P.Kz top : ℂ)) := by
  simp only [eigval, Tcoef_RC, RC_ofReal, RC_I]
  congr 1
  push_cast
  norm_num
  ring

end BLDFM.Spec
