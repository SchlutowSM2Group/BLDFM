/-
  Roots of unity `rootPow N m = exp(2πi m / N)` and what the model's phases are in terms of them: the twiddle factors
  of `dft2` (`twiddle_int`), and wavenumber × grid offset = 2π · (signed frequency) · (cell count) / N (`waveX_cells`).
  `SignPair s sr` ties the integer sign `s` of an exponent to the real sign `sr` the model hands to `dft2`, so that the
  forward and the inverse transform are treated by one statement.  `shiftFactor_RC` is the model's shift factor over
  ℝ and ℂ, from which its users pick the branch of their mode.
-/
import Proofs.Lemmas.Spec
import Proofs.Lemmas.Tactics
import Proofs.Lemmas.Index
import Mathlib.Analysis.SpecialFunctions.Trigonometric.Basic
import Mathlib.Analysis.SpecialFunctions.Complex.Circle

open BLDFM BLDFM.Spec

namespace BLDFM.Spec

noncomputable def rootPow (N : ℕ) (m : ℤ) : ℂ :=
  Complex.exp (2 * Real.pi * Complex.I * (m : ℂ) / (N : ℂ))

theorem rootPow_zero (N : ℕ) : rootPow N 0 = 1 := by simp [rootPow]

theorem rootPow_add (N : ℕ) (m n : ℤ) : rootPow N (m + n) = rootPow N m * rootPow N n := by
  simp only [rootPow, ← Complex.exp_add]
  congr 1
  push_cast
  ring

theorem rootPow_neg (N : ℕ) (m : ℤ) : rootPow N (-m) = (rootPow N m)⁻¹ := by
  simp only [rootPow, ← Complex.exp_neg]
  congr 1
  push_cast
  ring

theorem rootPow_add_mul (N : ℕ) (hN : 0 < N) (m t : ℤ) : rootPow N (m + N * t) = rootPow N m := by
  have hN' : (N : ℂ) ≠ 0 := by exact_mod_cast hN.ne'
  simp only [rootPow]
  have : 2 * (Real.pi : ℂ) * Complex.I * ((m + N * t : ℤ) : ℂ) / (N : ℂ)
      = 2 * Real.pi * Complex.I * (m : ℂ) / (N : ℂ) + (t : ℂ) * (2 * Real.pi * Complex.I) := by
    push_cast; field_simp
  rw [this, Complex.exp_add, Complex.exp_int_mul_two_pi_mul_I, mul_one]

theorem rootPow_emod (N : ℕ) (hN : 0 < N) (m : ℤ) : rootPow N (m % N) = rootPow N m := by
  conv_rhs => rw [← Int.emod_add_mul_ediv m N]
  rw [rootPow_add_mul N hN]

theorem rootPow_mul_nat (N : ℕ) (m : ℤ) (j : ℕ) : rootPow N (m * j) = (rootPow N m) ^ j := by
  simp only [rootPow, ← Complex.exp_nat_mul]
  congr 1
  push_cast
  ring

theorem rootPow_sfreq (N : ℕ) (hN : 0 < N) (A : ℕ) (s j : ℤ) :
    rootPow N (s * (A : ℤ) * j) = rootPow N (s * sfreq N A * j) := by
  rcases Index.sfreq_cast N A with h | h
  · rw [← h]
  · rw [h, show s * (sfreq N A + (N : ℤ)) * j = s * sfreq N A * j + N * (s * j) by ring,
      rootPow_add_mul N hN]

theorem freqR_eq {n a : ℕ} (ha : a < n) : freqR RC n a = ((sfreq n a : ℤ) : ℝ) := by
  unfold freqR sfreq
  split
  · rw [RC_natCast, Int.cast_natCast]
  · rw [RC_natCast, Nat.cast_sub ha.le]
    push_cast
    ring

/-- both signs at once: `s = 1` with `sr = 1.0` (inverse transform, dispersion mode) or `s = -1` with
`sr = -1.0` (forward transform, footprint mode) -/
def SignPair (s : ℤ) (sr : ℝ) : Prop := (s = 1 ∧ sr = 1.0) ∨ (s = -1 ∧ sr = -1.0)

theorem SignPair.cast {s : ℤ} {sr : ℝ} (h : SignPair s sr) : sr = (s : ℝ) := by
  rcases h with ⟨rfl, rfl⟩ | ⟨rfl, rfl⟩ <;> norm_num

theorem SignPair.eq_one_or_neg_one {s : ℤ} {sr : ℝ} (h : SignPair s sr) : s = 1 ∨ s = -1 :=
  h.imp And.left And.left

theorem twiddle_int (s : ℤ) (N k : ℕ) (hN : 0 < N) : twiddle RC (s : ℝ) N k = rootPow N (s * k) := by
  have hk : s * ((k % N : ℕ) : ℤ) % N = s * k % N := by
    rw [Int.natCast_mod]
    exact (Int.mod_modEq k N).mul_left s
  rw [← rootPow_emod N hN (s * k), ← hk, rootPow_emod N hN]
  simp only [twiddle, rootPow, RC]
  generalize k % N = r
  congr 1
  push_cast
  norm_num
  ring

theorem twiddle_pos (N k : ℕ) (hN : 0 < N) : twiddle RC (1.0 : ℝ) N k = rootPow N k := by
  have hc : (1.0 : ℝ) = ((1 : ℤ) : ℝ) := SignPair.cast (Or.inl ⟨rfl, rfl⟩)
  rw [hc, twiddle_int 1 N k hN, one_mul]

theorem twiddle_neg (N k : ℕ) (hN : 0 < N) : twiddle RC (-1.0 : ℝ) N k = rootPow N (-(k : ℤ)) := by
  have hc : (-1.0 : ℝ) = ((-1 : ℤ) : ℝ) := SignPair.cast (Or.inr ⟨rfl, rfl⟩)
  rw [hc, twiddle_int (-1) N k hN, neg_one_mul]

/-- a wavenumber is `2π / (d N)` times the signed frequency of its slot (one axis: cell width `d`, padded size `N`) -/
theorem wave_eq (d : ℝ) (N nl b : ℕ) (hb : b < nl) :
    2.0 * RC.pi / d / RC.natCast N * freqR RC nl b = 2 * Real.pi / d / N * (sfreq nl b : ℤ) := by
  rw [freqR_eq hb, RC_pi, RC_natCast]
  norm_num

theorem waveX_eq (g : Geom ℝ) {b : ℕ} (hb : b < g.nlx) :
    waveX RC g b = 2 * Real.pi / g.dx / g.nxe * (sfreq g.nlx b : ℤ) := by
  unfold waveX
  exact wave_eq g.dx g.nxe g.nlx b hb

theorem waveY_eq (g : Geom ℝ) {a : ℕ} (ha : a < g.nly) :
    waveY RC g a = 2 * Real.pi / g.dy / g.nye * (sfreq g.nly a : ℤ) := by
  unfold waveY
  exact wave_eq g.dy g.nye g.nly a ha

theorem waveX_cells (g : Geom ℝ) (b : ℕ) (c : ℝ) (hb : b < g.nlx) (hdx : g.dx ≠ 0) (hN : 0 < g.nxe) :
    waveX RC g b * (c * g.dx) = 2 * Real.pi * (sfreq g.nlx b : ℤ) * c / g.nxe := by
  have hN' : (g.nxe : ℝ) ≠ 0 := by exact_mod_cast hN.ne'
  rw [waveX_eq g hb]
  field_simp

theorem waveY_cells (g : Geom ℝ) (a : ℕ) (c : ℝ) (ha : a < g.nly) (hdy : g.dy ≠ 0) (hN : 0 < g.nye) :
    waveY RC g a * (c * g.dy) = 2 * Real.pi * (sfreq g.nly a : ℤ) * c / g.nye := by
  have hN' : (g.nye : ℝ) ≠ 0 := by exact_mod_cast hN.ne'
  rw [waveY_eq g ha]
  field_simp

theorem waveX_neg (g : Geom ℝ) {b bb : ℕ} (hb : b < g.nlx) (hbb : bb < g.nlx) (hf : sfreq g.nlx bb = -sfreq g.nlx b) :
    waveX RC g b = -waveX RC g bb := by
  rw [waveX_eq g hb, waveX_eq g hbb, hf, Int.cast_neg, mul_neg, neg_neg]

theorem waveY_neg (g : Geom ℝ) {a aa : ℕ} (ha : a < g.nly) (haa : aa < g.nly) (hf : sfreq g.nly aa = -sfreq g.nly a) :
    waveY RC g a = -waveY RC g aa := by
  rw [waveY_eq g ha, waveY_eq g haa, hf, Int.cast_neg, mul_neg, neg_neg]

theorem shiftFactor_RC (req : SolveReq ℝ) (g : Geom ℝ) (a b : ℕ) :
    shiftFactor RC req g a b =
      if req.footprint then
        Complex.exp (Complex.I * ↑(waveX RC g b * (req.xm + g.px * g.dx) + waveY RC g a * (req.ym + g.py * g.dy)))
      else if 0 < req.xm ^ 2 + req.ym ^ 2 then
        Complex.exp (Complex.I * ↑(waveX RC g b * (req.xm - req.xmx / 2) + waveY RC g a * (req.ym - req.ymx / 2)))
      else 1 := by
  unfold shiftFactor
  norm_num1
  rfl

end BLDFM.Spec
