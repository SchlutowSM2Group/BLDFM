/-
  The trigonometric sum `trig` (Trig.lean) summed over the whole periodic grid.  Orthogonality of the roots of unity:
  the plain sum is `Ny · Nx` times the coefficient of the zero slot (`sum_trig`).  Weighted with a grid function, a
  forward-transform field turns the table's phases into the forward sums `fwd` of that function (`recip_core`, the
  spectral core of the footprint reciprocity).
-/
import Proofs.Lemmas.Trig
import Mathlib.Algebra.Ring.GeomSum
import Mathlib.Analysis.SpecialFunctions.Complex.Log

open BLDFM BLDFM.Spec BLDFM.Index

namespace BLDFM.Spec

theorem rootPow_eq_one_iff (N : ℕ) (hN : 0 < N) (m : ℤ) : rootPow N m = 1 ↔ (N : ℤ) ∣ m := by
  have hN' : (N : ℂ) ≠ 0 := by exact_mod_cast hN.ne'
  unfold rootPow
  rw [Complex.exp_eq_one_iff]
  constructor
  · rintro ⟨k, hk⟩
    have h2 : (2 * (Real.pi : ℂ) * Complex.I) ≠ 0 := by
      simp [Real.pi_ne_zero, Complex.I_ne_zero]
    have : (m : ℂ) = (N : ℂ) * (k : ℂ) := by
      field_simp at hk
      exact hk
    exact ⟨k, by exact_mod_cast this⟩
  · rintro ⟨k, rfl⟩
    exact ⟨k, by push_cast; field_simp⟩

theorem sum_rootPow {N : ℕ} (hN : 0 < N) (m : ℤ) :
    ∑ j ∈ Finset.range N, rootPow N (m * j) = if (N : ℤ) ∣ m then (N : ℂ) else 0 := by
  simp only [rootPow_mul_nat]
  split
  · rename_i h
    rw [(rootPow_eq_one_iff N hN m).mpr h]
    simp
  · rename_i h
    have hne : rootPow N m ≠ 1 := fun h1 => h ((rootPow_eq_one_iff N hN m).mp h1)
    have hpow : rootPow N m ^ N = 1 := by
      rw [← rootPow_mul_nat, (rootPow_eq_one_iff N hN _)]
      exact ⟨m, by ring⟩
    have hg := geom_sum_mul (rootPow N m) N
    rw [hpow, sub_self] at hg
    exact (mul_eq_zero.mp hg).resolve_right (sub_ne_zero.mpr hne)

theorem sfreq_dvd_iff {N nl a : ℕ} (hle : nl ≤ N) (ha : a < nl) (s : ℤ) (hs : s = 1 ∨ s = -1) :
    (N : ℤ) ∣ s * sfreq nl a ↔ a = 0 := by
  have hb := sfreq_bounds ha
  rw [← sfreq_eq_zero_iff ha]
  constructor
  · intro hd
    have hd' : (N : ℤ) ∣ sfreq nl a := by
      rcases hs with rfl | rfl
      · rwa [one_mul] at hd
      · rwa [neg_one_mul, Int.dvd_neg] at hd
    exact Int.eq_zero_of_abs_lt_dvd hd' (abs_lt.mpr ⟨by omega, by omega⟩)
  · intro h0
    rw [h0, mul_zero]
    exact dvd_zero _

theorem sum4_comm {ι V : Type*} [AddCommMonoid V] (J I A B : Finset ι) (F : ι → ι → ι → ι → V) :
    ∑ j ∈ J, ∑ i ∈ I, ∑ a ∈ A, ∑ b ∈ B, F j i a b = ∑ a ∈ A, ∑ b ∈ B, ∑ j ∈ J, ∑ i ∈ I, F j i a b := by
  calc ∑ j ∈ J, ∑ i ∈ I, ∑ a ∈ A, ∑ b ∈ B, F j i a b
      = ∑ p ∈ J ×ˢ I, ∑ q ∈ A ×ˢ B, F p.1 p.2 q.1 q.2 := by simp only [Finset.sum_product]
    _ = ∑ q ∈ A ×ˢ B, ∑ p ∈ J ×ˢ I, F p.1 p.2 q.1 q.2 := Finset.sum_comm
    _ = ∑ a ∈ A, ∑ b ∈ B, ∑ j ∈ J, ∑ i ∈ I, F j i a b := by simp only [Finset.sum_product]

variable {V : Type*} [AddCommMonoid V] [Module ℂ V] {s : ℤ} {Ny Nx nly nlx : ℕ}

theorem sum_phase (hly : nly ≤ Ny) (hlx : nlx ≤ Nx) (hs : s = 1 ∨ s = -1)
    (a b : ℕ) (ha : a < nly) (hb : b < nlx) :
    ∑ J ∈ Finset.range Ny, ∑ I ∈ Finset.range Nx, rootPow Nx (s * sfreq nlx b * I) * rootPow Ny (s * sfreq nly a * J)
      = if a = 0 ∧ b = 0 then (Ny : ℂ) * Nx else 0 := by
  have hNy : 0 < Ny := (Nat.zero_lt_of_lt ha).trans_le hly
  have hNx : 0 < Nx := (Nat.zero_lt_of_lt hb).trans_le hlx
  have hfac : ∑ J ∈ Finset.range Ny, ∑ I ∈ Finset.range Nx, rootPow Nx (s * sfreq nlx b * I) * rootPow Ny (s * sfreq nly a * J)
      = (if b = 0 then (Nx : ℂ) else 0) * (if a = 0 then (Ny : ℂ) else 0) := by
    simp only [← Finset.mul_sum, ← Finset.sum_mul, sum_rootPow hNx, sum_rootPow hNy,
      sfreq_dvd_iff hlx hb s hs, sfreq_dvd_iff hly ha s hs]
  rw [hfac]
  by_cases ha0 : a = 0
  · by_cases hb0 : b = 0
    · simp [ha0, hb0, mul_comm]
    · simp [ha0, hb0, mul_comm]
  · by_cases hb0 : b = 0
    · simp [ha0, hb0]
    · simp [ha0, hb0]

theorem sum_trig (hly : 0 < nly) (hlx : 0 < nlx) (hly' : nly ≤ Ny) (hlx' : nlx ≤ Nx)
    (hs : s = 1 ∨ s = -1) (T : ℕ → ℕ → V) :
    ∑ J ∈ Finset.range Ny, ∑ I ∈ Finset.range Nx, trig s Ny Nx nly nlx T J I = ((Ny : ℂ) * Nx) • T 0 0 := by
  unfold trig
  rw [sum4_comm]
  simp only [← Finset.sum_smul]
  rw [sum_single_slot hly hlx, sum_phase hly' hlx' hs 0 0 hly hlx, if_pos ⟨rfl, rfl⟩]
  intro a ha b hb hab
  rw [sum_phase hly' hlx' hs a b ha hb, if_neg hab, zero_smul]

theorem field_sum_eq_dc (s : ℤ) (sr : ℝ) (hs : SignPair s sr) (g : Geom ℝ) (hg : GeomOK g) (T : ℕ → ℕ → ℂ) :
    ∑ j ∈ Finset.range g.nye, ∑ i ∈ Finset.range g.nxe, (dft2 RC sr g.nye g.nxe (untrunc g T)).get j i
      = (g.nye : ℂ) * (g.nxe : ℂ) * T 0 0 := by
  rw [← smul_eq_mul, ← sum_trig hg.ady.pos hg.adx.pos hg.ady.le hg.adx.le hs.eq_one_or_neg_one T]
  simp only [solver_repr s sr hs g hg, trig, smul_eq_mul]
  refine Finset.sum_congr rfl fun j _ => Finset.sum_congr rfl fun i _ =>
    Finset.sum_congr rfl fun a _ => Finset.sum_congr rfl fun b _ => by ring

/-- spectral core of the reciprocity, for an arbitrary per-slot transfer `X`: weighting a grid function `x` with the
forward-transform field whose coefficients are `X` times the phase of the cell `(ym, xm)` over `Ny · Nx` gives the
inverse-transform field with coefficients (normalised forward sum of `x`) `· X`, evaluated at `(ym, xm)` -/
theorem _root_.BLDFM.C02.recip_core (x : ℕ → ℕ → ℂ) (X : ℕ → ℕ → V) (ym xm : ℤ) :
    ∑ J ∈ Finset.range Ny, ∑ I ∈ Finset.range Nx,
        x J I • trig (-1) Ny Nx nly nlx (fun a b =>
          ((rootPow Nx (sfreq nlx b * xm) * rootPow Ny (sfreq nly a * ym)) / ((Ny : ℂ) * Nx)) • X a b) J I
      = trig 1 Ny Nx nly nlx (fun a b =>
          (fwd Ny (fun J => fwd Nx (x J) (sfreq nlx b)) (sfreq nly a) / ((Ny : ℂ) * Nx)) • X a b) ym xm := by
  simp only [trig, fwd, Finset.smul_sum, smul_smul, Finset.sum_mul, Finset.sum_div, Finset.sum_smul,
    neg_mul, one_mul]
  rw [sum4_comm]
  refine Finset.sum_congr rfl fun a _ => Finset.sum_congr rfl fun b _ =>
    Finset.sum_congr rfl fun J _ => Finset.sum_congr rfl fun I _ => ?_
  congr 1
  ring

end BLDFM.Spec
