/-
  Great-circle (haversine) distance against the local (equirectangular) distance, on real variables only (no model).
  Throughout `c = cos φ₀ ≥ 1/2`, `a = Δφ`, `b = Δλ`, and `t` is the local angle, `t² = a² + c² b²`.  The haversine argument
  is `4h = t² (1 + O(t))` (`hav_bounds`) and the central angle `arcsin √h` lies between its sine and its tangent.
-/
import Mathlib.Analysis.SpecialFunctions.Trigonometric.Bounds
import Mathlib.Analysis.SpecialFunctions.Trigonometric.Inverse

namespace BLDFM.C17

theorem abs_sin_sub_le (x : ℝ) : |Real.sin x - x| ≤ |x| ^ 3 / 6 := abs_sub_comm x _ ▸ Real.abs_sub_sin_le x

/-- `S` stands for `sin x`; serves `sin²` here and the dot product in `SphereBearing` -/
theorem mul_sin_lower {x S r : ℝ} (h : |S - x| ≤ |x| ^ 3 / 6) (hr : |x| ≤ r) : x ^ 2 * (1 - r ^ 2 / 6) ≤ x * S := by
  have h1 : |x * (S - x)| ≤ |x| * (|x| ^ 3 / 6) := by
    rw [abs_mul]; exact mul_le_mul_of_nonneg_left h (abs_nonneg x)
  have h2 : |x| * (|x| ^ 3 / 6) = x ^ 2 * (x ^ 2 / 6) := by rw [← sq_abs x]; ring
  have h3 : x ^ 2 * (x ^ 2 / 6) ≤ x ^ 2 * (r ^ 2 / 6) := by
    rw [← sq_abs x]; gcongr
  linarith only [(abs_le.1 h1).1, h2, h3]

theorem sin_sq_lower (x : ℝ) : x ^ 2 * (1 - x ^ 2 / 3) ≤ Real.sin x ^ 2 := by
  have h := mul_sin_lower (abs_sin_sub_le x) le_rfl
  rw [sq_abs] at h
  -- `sin² x = 2 x sin x − x² + (sin x − x)²`
  linarith only [h, sq_nonneg (Real.sin x - x)]

/-- the legs `a`, `c b` of the local triangle against its hypotenuse `t` -/
theorem leg_bounds (a b t c : ℝ) (hc : 1 / 2 ≤ c) (ht0 : 0 ≤ t) (ht : t ^ 2 = a ^ 2 + c ^ 2 * b ^ 2) :
    |a| ≤ t ∧ c * |b| ≤ t ∧ |b| ≤ 2 * t := by
  have hc0 : 0 ≤ c := le_trans (by norm_num) hc
  have ha2 : a ^ 2 ≤ t ^ 2 := by
    rw [ht]
    exact le_add_of_nonneg_right (by positivity)
  have hcb2 : (c * |b|) ^ 2 ≤ t ^ 2 := by
    rw [mul_pow, sq_abs, ht]
    exact le_add_of_nonneg_left (sq_nonneg a)
  have ha : |a| ≤ t := abs_le_of_sq_le_sq ha2 ht0
  have hb : c * |b| ≤ t := (sq_le_sq₀ (by positivity) ht0).1 hcb2
  exact ⟨ha, hb, by linarith [mul_le_mul_of_nonneg_right hc (abs_nonneg b)]⟩

/-- … and with `s = sin φ₀`: `s² = 1 − c² ≤ 3/4`, so `|s| ≤ 0.8665` (`0.8665² = 0.7508…`) and `|s||b| ≤ 1.733 t` -/
theorem size_facts (a b t c s : ℝ) (hc : 1 / 2 ≤ c) (hcs : c ^ 2 + s ^ 2 = 1) (ht0 : 0 ≤ t)
    (ht : t ^ 2 = a ^ 2 + c ^ 2 * b ^ 2) :
    |a| ≤ t ∧ c * |b| ≤ t ∧ |b| ≤ 2 * t ∧ |s| * |b| ≤ 1733 / 1000 * t ∧ b ^ 2 ≤ 4 * t ^ 2 ∧ s ^ 2 ≤ 3 / 4 := by
  obtain ⟨ha, hcb, hb⟩ := leg_bounds a b t c hc ht0 ht
  have hc2 : (1 / 2) ^ 2 ≤ c ^ 2 := pow_le_pow_left₀ (by norm_num) hc 2
  have hs2 : s ^ 2 ≤ 3 / 4 := by linarith only [hcs, hc2]
  have hs : |s| ≤ 8665 / 10000 := abs_le_of_sq_le_sq (hs2.trans (by norm_num)) (by norm_num)
  have hm : |s| * |b| ≤ 1733 / 1000 * t := (mul_le_mul hs hb (abs_nonneg b) (by norm_num)).trans_eq (by ring)
  have hb2 : b ^ 2 ≤ 4 * t ^ 2 :=
    calc b ^ 2 = |b| ^ 2 := (sq_abs b).symm
      _ ≤ (2 * t) ^ 2 := pow_le_pow_left₀ (abs_nonneg b) hb 2
      _ = 4 * t ^ 2 := by ring
  exact ⟨ha, hcb, hb, hm, hb2, hs2⟩

theorem mul_near_sq {c c1 d : ℝ} (hc : 1 / 2 ≤ c) (h : |c1 - c| ≤ d) :
    c ^ 2 * (1 - 2 * d) ≤ c * c1 ∧ c * c1 ≤ c ^ 2 * (1 + 2 * d) := by
  have hd : 0 ≤ (2 * c - 1) * (c * d) :=
    mul_nonneg (by linarith) (mul_nonneg (by linarith) ((abs_nonneg _).trans h))
  obtain ⟨h1, h2⟩ := abs_le.1 h
  have h3 : c * (c - d) ≤ c * c1 := mul_le_mul_of_nonneg_left (by linarith) (by linarith)
  have h4 : c * c1 ≤ c * (c + d) := mul_le_mul_of_nonneg_left (by linarith) (by linarith)
  constructor <;> linarith

theorem half_sq_lower {x e s : ℝ} (h : |x| ≤ 2 * e) (hlo : (x / 2) ^ 2 * (1 - (x / 2) ^ 2 / 3) ≤ s) :
    (x / 2) ^ 2 * (1 - e ^ 2) ≤ s := by
  have hx : (x / 2) ^ 2 ≤ e ^ 2 := sq_le_sq' (by linarith only [(abs_le.1 h).1]) (by linarith only [(abs_le.1 h).2])
  exact (mul_le_mul_of_nonneg_left (by linarith only [hx, sq_nonneg (x / 2)]) (sq_nonneg _)).trans hlo

/-- the algebra behind `hav_bounds`, free of trigonometric terms -/
theorem hav_alg (a b t ε c c1 sa sb : ℝ) (hc : 1 / 2 ≤ c) (ht0 : 0 ≤ t)
    (ht : t ^ 2 = a ^ 2 + c ^ 2 * b ^ 2) (hε : t ≤ ε) (hε1 : ε ≤ 1 / 2)
    (hlip : |c1 - c| ≤ |a|)
    (hsa_hi : sa ≤ (a / 2) ^ 2) (hsb_hi : sb ≤ (b / 2) ^ 2)
    (hsa_lo : (a / 2) ^ 2 * (1 - (a / 2) ^ 2 / 3) ≤ sa) (hsb_lo : (b / 2) ^ 2 * (1 - (b / 2) ^ 2 / 3) ≤ sb) :
    (1 - ε ^ 2) * (1 - 2 * ε) * t ^ 2 ≤ 4 * (sa + c * c1 * sb) ∧ 4 * (sa + c * c1 * sb) ≤ (1 + 2 * ε) * t ^ 2 := by
  obtain ⟨hat, -, hbt⟩ := leg_bounds a b t c hc ht0 ht
  have hε0 : 0 ≤ ε := ht0.trans hε
  have h1ε : 0 ≤ 1 - ε ^ 2 := sub_nonneg.2 (pow_le_one₀ hε0 (hε1.trans (by norm_num)))
  -- each of the three factors is its first-order value up to a relative error `ε²` or `2ε`
  have h1 : (a / 2) ^ 2 * (1 - ε ^ 2) ≤ sa := half_sq_lower (by linarith only [hat, hε, hε0]) hsa_lo
  have h2 : (b / 2) ^ 2 * (1 - ε ^ 2) ≤ sb := half_sq_lower (by linarith only [hbt, hε]) hsb_lo
  obtain ⟨h3, h4⟩ := mul_near_sq hc (hlip.trans (hat.trans hε))
  have hsb0 : 0 ≤ sb := (mul_nonneg (sq_nonneg _) h1ε).trans h2
  have hcε : 0 ≤ c ^ 2 * (1 - 2 * ε) := mul_nonneg (sq_nonneg c) (by linarith only [hε1])
  have h5 : c ^ 2 * (1 - 2 * ε) * ((b / 2) ^ 2 * (1 - ε ^ 2)) ≤ c * c1 * sb :=
    mul_le_mul h3 h2 (mul_nonneg (sq_nonneg _) h1ε) (hcε.trans h3)
  have h6 : c * c1 * sb ≤ c ^ 2 * (1 + 2 * ε) * (b / 2) ^ 2 := mul_le_mul h4 hsb_hi hsb0 (by positivity)
  have h7 : 0 ≤ ε * ((1 - ε ^ 2) * a ^ 2) := mul_nonneg hε0 (mul_nonneg h1ε (sq_nonneg a))
  have h8 : 0 ≤ ε * a ^ 2 := mul_nonneg hε0 (sq_nonneg a)
  rw [ht]
  constructor
  · linarith only [h1, h5, h7]
  · linarith only [hsa_hi, h6, h8]

/-- the haversine argument -/
noncomputable def hav (φ₀ a b : ℝ) : ℝ :=
  Real.sin (a / 2) ^ 2 + Real.cos φ₀ * Real.cos (φ₀ + a) * Real.sin (b / 2) ^ 2

/-- two-sided bound of the haversine argument by the squared local (equirectangular) angle -/
theorem hav_bounds (φ₀ a b t ε : ℝ) (hc : 1 / 2 ≤ Real.cos φ₀) (ht0 : 0 ≤ t)
    (ht : t ^ 2 = a ^ 2 + Real.cos φ₀ ^ 2 * b ^ 2) (hε : t ≤ ε) (hε1 : ε ≤ 1 / 2) :
    (1 - ε ^ 2) * (1 - 2 * ε) * t ^ 2 ≤ 4 * hav φ₀ a b ∧ 4 * hav φ₀ a b ≤ (1 + 2 * ε) * t ^ 2 := by
  have hlip : |Real.cos (φ₀ + a) - Real.cos φ₀| ≤ |a| := by simpa using Real.abs_cos_sub_cos_le (φ₀ + a) φ₀
  unfold hav
  exact hav_alg a b t ε (Real.cos φ₀) (Real.cos (φ₀ + a)) (Real.sin (a / 2) ^ 2) (Real.sin (b / 2) ^ 2) hc ht0 ht hε hε1 hlip
    Real.sin_sq_le_sq Real.sin_sq_le_sq (sin_sq_lower _) (sin_sq_lower _)

/-- `x ≤ tan x` squared, with `cos² = 1 − sin²` -/
theorem sq_mul_le_sin_sq {x : ℝ} (h0 : 0 ≤ x) (h1 : x < Real.pi / 2) :
    x ^ 2 * (1 - Real.sin x ^ 2) ≤ Real.sin x ^ 2 := by
  have hcos : 0 < Real.cos x := Real.cos_pos_of_mem_Ioo ⟨by linarith, h1⟩
  have h2 : x * Real.cos x ≤ Real.sin x := by
    have := Real.le_tan h0 h1
    rwa [Real.tan_eq_sin_div_cos, le_div_iff₀ hcos] at this
  have h3 := pow_le_pow_left₀ (mul_nonneg h0 hcos.le) h2 2
  rwa [mul_pow, Real.cos_sq'] at h3

theorem arcsin_sqrt_sq {h : ℝ} (h0 : 0 ≤ h) (h1 : h < 1) :
    0 ≤ Real.arcsin (Real.sqrt h) ∧ h ≤ Real.arcsin (Real.sqrt h) ^ 2 ∧
      Real.arcsin (Real.sqrt h) ^ 2 * (1 - h) ≤ h := by
  have hs1 : Real.sqrt h < 1 := by rwa [Real.sqrt_lt' one_pos, one_pow]
  have hθ0 : 0 ≤ Real.arcsin (Real.sqrt h) := Real.arcsin_nonneg.2 (Real.sqrt_nonneg h)
  have hsin : Real.sin (Real.arcsin (Real.sqrt h)) ^ 2 = h := by
    rw [Real.sin_arcsin ((neg_one_lt_zero.le).trans (Real.sqrt_nonneg h)) hs1.le, Real.sq_sqrt h0]
  have h1 := Real.sin_sq_le_sq (x := Real.arcsin (Real.sqrt h))
  have h2 := sq_mul_le_sin_sq hθ0 (Real.arcsin_lt_pi_div_two.2 hs1)
  rw [hsin] at h1 h2
  exact ⟨hθ0, h1, h2⟩

/-- core statement in radians, for any bound `ε` on the local angle `t` and any relative tolerance `δ` that
the two numerical side conditions allow: `U = 1 + 2ε` and `L = (1 − ε²)(1 − 2ε)` are the factors of
`hav_bounds`, `m = U ε²/4` bounds `h` -/
theorem equirect_core_of {φ₀ a b t ε δ : ℝ} (hc : 1 / 2 ≤ Real.cos φ₀) (ht0 : 0 ≤ t)
    (ht : t ^ 2 = a ^ 2 + Real.cos φ₀ ^ 2 * b ^ 2) (hε : t ≤ ε) (hε1 : ε ≤ 1 / 2) (hδ0 : 0 ≤ δ) (hδ1 : δ ≤ 1)
    (hlo : 1 ≤ (1 + δ) ^ 2 * ((1 - ε ^ 2) * (1 - 2 * ε)))
    (hhi : (1 - δ) ^ 2 * (1 + 2 * ε) ≤ 1 - (1 + 2 * ε) * ε ^ 2 / 4) :
    (1 - δ) * (2 * Real.arcsin (Real.sqrt (hav φ₀ a b))) ≤ t ∧
      t ≤ (1 + δ) * (2 * Real.arcsin (Real.sqrt (hav φ₀ a b))) := by
  obtain ⟨hL, hU⟩ := hav_bounds φ₀ a b t ε hc ht0 ht hε hε1
  generalize hav φ₀ a b = h at *
  have hε0 : 0 ≤ ε := ht0.trans hε
  have hU0 : 0 < 1 + 2 * ε := by linarith only [hε0]
  have hL0 : 0 ≤ (1 - ε ^ 2) * (1 - 2 * ε) :=
    mul_nonneg (sub_nonneg.2 (pow_le_one₀ hε0 (hε1.trans (by norm_num)))) (by linarith only [hε1])
  have hh0 : 0 ≤ h := by linarith only [hL, mul_nonneg hL0 (sq_nonneg t)]
  have hhm : 4 * h ≤ (1 + 2 * ε) * ε ^ 2 := hU.trans (mul_le_mul_of_nonneg_left (pow_le_pow_left₀ ht0 hε 2) hU0.le)
  have hh1 : h < 1 := by
    have : (1 + 2 * ε) * ε ^ 2 ≤ 2 * (1 / 2) ^ 2 :=
      mul_le_mul (by linarith only [hε1]) (pow_le_pow_left₀ hε0 hε1 2) (sq_nonneg ε) (by norm_num)
    linarith only [hhm, this]
  obtain ⟨hθ0, h1, h2⟩ := arcsin_sqrt_sq hh0 hh1
  generalize Real.arcsin (Real.sqrt h) = θ at *
  constructor
  -- `positivity` takes `0 ≤ 1 - δ` from `hδ1` in the first part, `0 ≤ 1 + δ` from `hδ0` in the second
  · refine (sq_le_sq₀ (by positivity) ht0).1 (le_of_mul_le_mul_left ?_ hU0)
    calc (1 + 2 * ε) * ((1 - δ) * (2 * θ)) ^ 2 = (1 - δ) ^ 2 * (1 + 2 * ε) * (4 * θ ^ 2) := by ring
      _ ≤ (1 - h) * (4 * θ ^ 2) := mul_le_mul_of_nonneg_right (by linarith only [hhi, hhm]) (by positivity)
      _ ≤ (1 + 2 * ε) * t ^ 2 := by linarith only [h2, hU]
  · refine (sq_le_sq₀ ht0 (by positivity)).1 ?_
    calc t ^ 2 ≤ (1 + δ) ^ 2 * ((1 - ε ^ 2) * (1 - 2 * ε)) * t ^ 2 := le_mul_of_one_le_left (sq_nonneg t) hlo
      _ = (1 + δ) ^ 2 * ((1 - ε ^ 2) * (1 - 2 * ε) * t ^ 2) := mul_assoc _ _ _
      _ ≤ (1 + δ) ^ 2 * (4 * θ ^ 2) := mul_le_mul_of_nonneg_left (by linarith only [hL, h1]) (sq_nonneg _)
      _ = ((1 + δ) * (2 * θ)) ^ 2 := by ring

/-- core statement in radians -/
theorem equirect_core {φ₀ a b t : ℝ} (hc : 1 / 2 ≤ Real.cos φ₀) (ht0 : 0 ≤ t)
    (ht : t ^ 2 = a ^ 2 + Real.cos φ₀ ^ 2 * b ^ 2) (hε : t ≤ 8 / 10000) :
    (1 - 1 / 1000) * (2 * Real.arcsin (Real.sqrt (hav φ₀ a b))) ≤ t ∧
      t ≤ (1 + 1 / 1000) * (2 * Real.arcsin (Real.sqrt (hav φ₀ a b))) :=
  equirect_core_of (δ := 1 / 1000) hc ht0 ht hε (hε1 := by norm_num) (hδ0 := by norm_num)
    (hδ1 := by norm_num) (hlo := by norm_num) (hhi := by norm_num)

/-- great-circle (haversine) distance on the sphere of radius `R`, arguments in degrees -/
noncomputable def haversine (R lat lon refLat refLon : ℝ) : ℝ :=
  2 * R * Real.arcsin (Real.sqrt (hav (refLat * (Real.pi / 180)) ((lat - refLat) * (Real.pi / 180))
    ((lon - refLon) * (Real.pi / 180))))

end BLDFM.C17
