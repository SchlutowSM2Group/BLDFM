/-
  The model's transforms in closed form.  Forward: `dft2` with sign `−` is the nested forward sum `fwd`.  Back: through
  `untrunc`, the twiddle tables and the index shifts, the padded-domain field is the trigonometric sum over the retained
  slots with their signed frequencies (`solver_repr`, both parities of the padded sizes).
-/
import Proofs.Lemmas.Phase
import Mathlib.Algebra.BigOperators.Group.Finset.Basic
import Mathlib.Algebra.BigOperators.Ring.Finset

open BLDFM BLDFM.Spec BLDFM.Index

namespace BLDFM.Spec

theorem dft1_eq (tw : ℕ → ℂ) (N : ℕ) (x : ℕ → ℂ) (a : ℕ) :
    dft1 tw N x a = ∑ j ∈ Finset.range N, x j * tw (a * j) := by
  unfold dft1
  exact sumN_lit_eq_sum _ _

theorem twiddle_mod (sr : ℝ) (N k : ℕ) : twiddle RC sr N (k % N) = twiddle RC sr N k := by
  simp only [twiddle, Nat.mod_mod]

theorem dft2_sgn (s : ℤ) (sr : ℝ) (hs : SignPair s sr) (Ny Nx : ℕ) (hy : 0 < Ny) (hx : 0 < Nx)
    (x : ℕ → ℕ → ℂ) (a b : ℕ) :
    (dft2 RC sr Ny Nx x).get a b =
      ∑ j ∈ Finset.range Ny, (∑ i ∈ Finset.range Nx, x j i * rootPow Nx (s * ((b : ℤ) * i))) * rootPow Ny (s * ((a : ℤ) * j)) := by
  rw [hs.cast]
  simp only [dft2, Tab2.get_tab, Tab1.get_tab, dft1_eq, twiddle_mod]
  simp only [twiddle_int _ _ _ hy, twiddle_int _ _ _ hx, Nat.cast_mul]

theorem dft2_pos (Ny Nx : ℕ) (hy : 0 < Ny) (hx : 0 < Nx) (x : ℕ → ℕ → ℂ) (a b : ℕ) :
    (dft2 RC (1.0 : ℝ) Ny Nx x).get a b =
      ∑ j ∈ Finset.range Ny, (∑ i ∈ Finset.range Nx, x j i * rootPow Nx ((b : ℤ) * i)) * rootPow Ny ((a : ℤ) * j) := by
  simpa only [one_mul] using dft2_sgn 1 1.0 (Or.inl ⟨rfl, rfl⟩) Ny Nx hy hx x a b

noncomputable def fwd (N : ℕ) (ρ : ℕ → ℂ) (m : ℤ) : ℂ := ∑ I ∈ Finset.range N, ρ I * rootPow N (-(m * I))

theorem dft2_neg (Ny Nx : ℕ) (hy : 0 < Ny) (hx : 0 < Nx) (x : ℕ → ℕ → ℂ) (a b : ℕ) :
    (dft2 RC (-1.0 : ℝ) Ny Nx x).get a b = fwd Ny (fun j => fwd Nx (x j) b) a := by
  simpa only [fwd, neg_one_mul] using dft2_sgn (-1) (-1.0) (Or.inr ⟨rfl, rfl⟩) Ny Nx hy hx x a b

theorem rootPow_slotPos {N nl a : ℕ} (hN : 0 < N) (hle : nl ≤ N) (ha : a < nl) (s j : ℤ) :
    rootPow N (s * ((slotPos N nl a : ℕ) : ℤ) * j) = rootPow N (s * sfreq nl a * j) := by
  rw [rootPow_sfreq N hN, (sfreq_slotPos hle ha).2]

theorem fwd_slotPos {N nl a : ℕ} (hN : 0 < N) (hle : nl ≤ N) (ha : a < nl) (ρ : ℕ → ℂ) :
    fwd N ρ (slotPos N nl a) = fwd N ρ (sfreq nl a) := by
  refine Finset.sum_congr rfl fun I _ => ?_
  have h := rootPow_slotPos hN hle ha (-1) I
  rw [neg_one_mul, neg_one_mul, neg_mul, neg_mul] at h
  rw [h]

/-- 1-D re-indexing: a length-`N` spectrum that is `G a` at the position of slot `a` and zero elsewhere,
summed against any kernel `h`, is the sum over the retained slots -/
theorem sum_over_slots (N nl : ℕ) (hadm : Admissible N nl) (U : ℕ → ℂ) (G : ℕ → ℂ) (h : ℕ → ℂ)
    (hhit : ∀ a, a < nl → U (slotPos N nl a) = G a)
    (hmiss : ∀ A, A < N → (¬∃ a, a < nl ∧ slotPos N nl a = A) → U A = 0) :
    ∑ A ∈ Finset.range N, U A * h A = ∑ a ∈ Finset.range nl, G a * h (slotPos N nl a) := by
  symm
  refine Finset.sum_of_injOn (slotPos N nl) ?_ ?_ ?_ ?_
  · intro a ha b hb hab
    exact slotPos_inj N nl a b hadm (Finset.mem_range.mp ha) (Finset.mem_range.mp hb) hab
  · intro a ha
    exact Finset.mem_range.mpr (sfreq_slotPos hadm.le (Finset.mem_range.mp ha)).1
  · intro A hA hno
    rw [hmiss A (Finset.mem_range.mp hA) fun ⟨a, ha, e⟩ => hno ⟨a, Finset.mem_range.mpr ha, e⟩, zero_mul]
  · intro a ha
    rw [hhit a (Finset.mem_range.mp ha)]

/-- geometry hypotheses shared by the field-level theorems; `GeomOK.of_request` derives them from the request -/
structure GeomOK (g : Geom ℝ) : Prop where
  ady : Admissible g.nye g.nly
  adx : Admissible g.nxe g.nlx
  hdy : g.dly = (g.nye - g.nly) / 2
  hdx : g.dlx = (g.nxe - g.nlx) / 2

theorem GeomOK.Nx_pos {g : Geom ℝ} (h : GeomOK g) : 0 < g.nxe := lt_of_lt_of_le h.adx.pos h.adx.le
theorem GeomOK.Ny_pos {g : Geom ℝ} (h : GeomOK g) : 0 < g.nye := lt_of_lt_of_le h.ady.pos h.ady.le

theorem GeomOK.Nx_ne {g : Geom ℝ} (h : GeomOK g) : (g.nxe : ℂ) ≠ 0 := by exact_mod_cast h.Nx_pos.ne'
theorem GeomOK.Ny_ne {g : Geom ℝ} (h : GeomOK g) : (g.nye : ℂ) ≠ 0 := by exact_mod_cast h.Ny_pos.ne'

/-- the geometry the model derives is admissible for every request that passes the even-modes check (any parity of
`nx`, `ny`, any halo) -/
theorem GeomOK.of_request (req : SolveReq ℝ) (hnx : 0 < req.nx) (hny : 0 < req.ny)
    (hex : req.nlx % 2 = 0) (hey : req.nly % 2 = 0) (hpx : 0 < req.nlx) (hpy : 0 < req.nly) :
    GeomOK (geom RC req) := by
  -- read off the record `geom` builds: `nxe = nx + 2 px`, `nye = ny + 2 py`, `(nlx, nly) = clampModes nlx nly nxe nye`,
  -- `dlx = (nxe − nlx) / 2`, `dly = (nye − nly) / 2`
  have hx : 0 < (geom RC req).nxe := by
    unfold geom
    exact Nat.add_pos_left hnx _
  have hy : 0 < (geom RC req).nye := by
    unfold geom
    exact Nat.add_pos_left hny _
  have h := clamp_admissible req.nlx req.nly (geom RC req).nxe (geom RC req).nye hx hy hex hey hpx hpy
  unfold geom at h ⊢
  exact ⟨h.2, h.1, rfl, rfl⟩

/-- 1-D window/slot description of `untrunc` along one axis -/
def untrunc1 (N nl : ℕ) (G : ℕ → ℂ) (A : ℕ) : ℂ :=
  if (N - nl) / 2 ≤ ifftshiftIdx N A ∧ ifftshiftIdx N A < (N - nl) / 2 + nl
  then G (fftshiftIdx nl (ifftshiftIdx N A - (N - nl) / 2)) else 0

theorem untrunc1_hit (N nl : ℕ) (hadm : Admissible N nl) (G : ℕ → ℂ) (a : ℕ) (ha : a < nl) :
    untrunc1 N nl G (slotPos N nl a) = G a := by
  obtain ⟨hw, e⟩ := untrunc_index_hit N nl a hadm ha
  unfold untrunc1
  rw [if_pos (show _ ∧ _ from hw), e]

theorem untrunc1_miss (N nl : ℕ) (hadm : Admissible N nl) (G : ℕ → ℂ) (A : ℕ) (hA : A < N)
    (hno : ¬∃ a, a < nl ∧ slotPos N nl a = A) : untrunc1 N nl G A = 0 := by
  unfold untrunc1
  split
  · rename_i h
    obtain ⟨a, ha, hs, _⟩ := untrunc_index_window N nl A hadm hA h
    exact absurd ⟨a, ha, hs⟩ hno
  · rfl

theorem untrunc1_sum (N nl : ℕ) (F : ℕ → ℕ → ℂ) (h : ℕ → ℂ) (M A : ℕ) :
    ∑ B ∈ Finset.range M, untrunc1 N nl (fun a => F a B) A * h B
      = untrunc1 N nl (fun a => ∑ B ∈ Finset.range M, F a B * h B) A := by
  unfold untrunc1
  split
  · rfl
  · simp

theorem dft_untrunc1 (N nl : ℕ) (hN : 0 < N) (hadm : Admissible N nl) (G : ℕ → ℂ) (s : ℤ) (j : ℕ) :
    ∑ A ∈ Finset.range N, untrunc1 N nl G A * rootPow N (s * ((j : ℤ) * A))
      = ∑ a ∈ Finset.range nl, G a * rootPow N (s * sfreq nl a * j) := by
  rw [sum_over_slots N nl hadm _ G _ (untrunc1_hit N nl hadm G) (untrunc1_miss N nl hadm G)]
  apply Finset.sum_congr rfl
  intro a ha
  rw [mul_comm (j : ℤ), ← mul_assoc, rootPow_slotPos hN hadm.le (Finset.mem_range.mp ha)]

theorem untrunc_eq (g : Geom ℝ) (hg : GeomOK g) (T : ℕ → ℕ → ℂ) (A B : ℕ) :
    untrunc g T A B = untrunc1 g.nye g.nly (fun a => untrunc1 g.nxe g.nlx (fun b => T a b) B) A := by
  unfold untrunc untrunc1
  simp only [hg.hdy, hg.hdx, ← ite_and, and_assoc]
  norm_num

/-- spectral representation.  The padded-domain field produced from the truncated coefficient table `T`
is the trigonometric sum over the retained slots, each at its own signed frequency:
`field[j, i] = Σ_{a<nly} Σ_{b<nlx} T a b · ω_x^{s f(b) i} · ω_y^{s f(a) j}` (`s = +1` dispersion, `−1` footprint) -/
theorem solver_repr (s : ℤ) (sr : ℝ) (hs : SignPair s sr) (g : Geom ℝ) (hg : GeomOK g) (T : ℕ → ℕ → ℂ) (j i : ℕ) :
    (dft2 RC sr g.nye g.nxe (untrunc g T)).get j i =
      ∑ a ∈ Finset.range g.nly, ∑ b ∈ Finset.range g.nlx,
        T a b * rootPow g.nxe (s * sfreq g.nlx b * i) * rootPow g.nye (s * sfreq g.nly a * j) := by
  -- in `dft2_sgn` the output index pair is (j, i) and the summation runs over spectrum indices (A, B)
  rw [dft2_sgn s sr hs _ _ hg.Ny_pos hg.Nx_pos]
  simp only [untrunc_eq g hg, untrunc1_sum, dft_untrunc1 _ _ hg.Nx_pos hg.adx, dft_untrunc1 _ _ hg.Ny_pos hg.ady,
    Finset.sum_mul]

end BLDFM.Spec
