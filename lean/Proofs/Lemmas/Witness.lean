/-
  Non-vacuity: a concrete request that satisfies the standing hypotheses of the field-level theorems (`GeomOK`,
  double precision; `DenOK` holds for it only because it is analytic, the numerical branch is not witnessed), so that
  none of them is an implication with an unsatisfiable premise.  The grid is odd × even with a non-trivial truncation.
-/
import Proofs.C02
import Proofs.C11

open BLDFM BLDFM.Spec BLDFM.Index

namespace BLDFM.Witness

/-- 5 × 4 cells, 3 nodes, uniform profiles, 2 × 2 retained modes, halo 0, analytic mode -/
noncomputable def wreq (fp : Bool) : SolveReq ℝ where
  ny := 4
  nx := 5
  nz := 3
  q := fun j i => (j : ℝ) + 2 * i
  z := fun k => 1 + k
  P := { u := fun _ => 3, v := fun _ => 1, Kx := fun _ => 1, Ky := fun _ => 2, Kz := fun _ => 1 }
  xmx := 50
  ymx := 40
  levels := [2, 0]
  nlx := 2
  nly := 2
  xm := 10
  ym := 10
  bg := 7
  footprint := fp
  analytic := true
  halo := some 0
  precision := .double

/-- its derived geometry: 10 m cells, no padding, both retained modes kept (a variant with other mode counts, grid or
extents still has `halo = some 0`, and `C11.geom_no_halo rfl` gives its geometry) -/
theorem wreq_geom (fp : Bool) : geom RC (wreq fp) = ⟨10, 10, 0, 0, 0, 5, 4, 2, 2, 1, 1⟩ := by
  rw [C11.geom_no_halo rfl]
  norm_num [wreq, clampModes]

theorem wreq_geomOK (fp : Bool) : GeomOK (geom RC (wreq fp)) :=
  GeomOK.of_request (wreq fp) (by simp [wreq]) (by simp [wreq]) (by simp [wreq]) (by simp [wreq]) (by simp [wreq]) (by simp [wreq])

theorem wreq_denOK (fp : Bool) : C02.DenOK (wreq fp) := by
  intro h
  exact absurd h (by simp [wreq])

theorem wreq_double (fp : Bool) : (wreq fp).precision = .double := rfl

end BLDFM.Witness
