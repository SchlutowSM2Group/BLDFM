/-
  Index alignment of the truncated spectrum (pure integer arithmetic, both parities of the padded
  size `N`).  Every index map of the pipeline (`ifftshiftIdx`, `fftshiftIdx`, `truncSrc`, the window of
  `untrunc`, `slotPos`) is described by what it does to the signed frequency `sfreq` (numpy `fftfreq`) of
  an index; two in-range indices with the same signed frequency are equal (`sfreq_inj`).  Slot `a` of the
  truncated, un-shifted spectrum thus holds the component of signed frequency `f(a)`, i.e. entry
  `f(a) mod N` of the full spectrum, on the way in (`truncSrc`) and on the way back (`untrunc`).
-/
import BLDFM.Solver
import Mathlib.Tactic.Ring
import Mathlib.Tactic.Linarith

open BLDFM

namespace BLDFM.Spec

/-- signed frequency of slot `a` of a length-`n` spectrum (numpy `fftfreq(n, 1/n)`) -/
def sfreq (n a : ℕ) : ℤ := if a < (n + 1) / 2 then (a : ℤ) else (a : ℤ) - (n : ℤ)

end BLDFM.Spec

namespace BLDFM.Index

open BLDFM.Spec

/-- position of signed frequency `f(a)` (slot `a` of a length-`nl` spectrum) in a
length-`N` spectrum: `f(a) mod N` -/
def slotPos (N nl a : ℕ) : ℕ := if a < (nl + 1) / 2 then a else N - (nl - a)

/-- the admissible (padded size, mode count) pairs after the clamp: `nl ≤ N` and
either `nl` even or the spectrum is kept whole -/
def Admissible (N nl : ℕ) : Prop := 0 < nl ∧ nl ≤ N ∧ (nl % 2 = 0 ∨ nl = N)

theorem Admissible.pos {N nl : ℕ} (h : Admissible N nl) : 0 < nl := h.1
theorem Admissible.le {N nl : ℕ} (h : Admissible N nl) : nl ≤ N := h.2.1
theorem Admissible.parity {N nl : ℕ} (h : Admissible N nl) : nl % 2 = 0 ∨ nl = N := h.2.2

theorem sfreq_inj {n a b : ℕ} (ha : a < n) (hb : b < n) (h : sfreq n a = sfreq n b) : a = b := by
  unfold sfreq at h
  split at h <;> split at h <;> omega

theorem sfreq_bounds {n a : ℕ} (ha : a < n) :
    -((n / 2 : ℕ) : ℤ) ≤ sfreq n a ∧ sfreq n a < (n : ℤ) - (n / 2 : ℕ) := by
  unfold sfreq
  split <;> omega

theorem sfreq_cast (n a : ℕ) : (a : ℤ) = sfreq n a ∨ (a : ℤ) = sfreq n a + n := by
  unfold sfreq
  split <;> omega

theorem sfreq_zero {n : ℕ} (hn : 0 < n) : sfreq n 0 = 0 := by
  unfold sfreq
  rw [if_pos (by omega)]
  rfl

theorem sfreq_eq_zero_iff {n a : ℕ} (ha : a < n) : sfreq n a = 0 ↔ a = 0 := by
  unfold sfreq
  split <;> omega

theorem eq_zero_iff_of_sfreq_neg {nl b bb : ℕ} (hb : b < nl) (hbb : bb < nl) (hf : sfreq nl bb = -sfreq nl b) :
    b = 0 ↔ bb = 0 := by
  rw [← sfreq_eq_zero_iff hb, ← sfreq_eq_zero_iff hbb, hf, neg_eq_zero]

theorem exists_sfreq {n : ℕ} {f : ℤ} (h1 : -((n / 2 : ℕ) : ℤ) ≤ f) (h2 : f < (n : ℤ) - (n / 2 : ℕ)) :
    ∃ a, a < n ∧ sfreq n a = f := by
  rcases le_or_gt 0 f with h | h
  · refine ⟨f.toNat, by omega, ?_⟩
    unfold sfreq
    rw [if_pos (by omega)]
    omega
  · refine ⟨(f + n).toNat, by omega, ?_⟩
    unfold sfreq
    rw [if_neg (by omega)]
    omega

theorem ifftshiftIdx_cast {N A : ℕ} (hA : A < N) : (ifftshiftIdx N A : ℤ) = sfreq N A + (N / 2 : ℕ) := by
  unfold ifftshiftIdx sfreq
  split
  · rw [Nat.mod_eq_of_lt (by omega)]
    push_cast
    rfl
  · have e : (A + N / 2) % N = A + N / 2 - N := by
      rw [Nat.mod_eq_sub_mod (by omega), Nat.mod_eq_of_lt (by omega)]
    rw [e]
    omega

theorem sfreq_fftshiftIdx {N k : ℕ} (hk : k < N) :
    fftshiftIdx N k < N ∧ sfreq N (fftshiftIdx N k) = (k : ℤ) - (N / 2 : ℕ) := by
  unfold fftshiftIdx sfreq
  by_cases h : k < N / 2
  · rw [Nat.mod_eq_of_lt (by omega), if_neg (by omega)]
    omega
  · have e : (k + N - N / 2) % N = k + N - N / 2 - N := by
      rw [Nat.mod_eq_sub_mod (by omega), Nat.mod_eq_of_lt (by omega)]
    rw [e, if_pos (by omega)]
    omega

theorem sfreq_slotPos {N nl a : ℕ} (hle : nl ≤ N) (ha : a < nl) :
    slotPos N nl a < N ∧ sfreq N (slotPos N nl a) = sfreq nl a := by
  unfold slotPos sfreq
  split
  · rw [if_pos (by omega)]
    omega
  · rw [if_neg (by omega)]
    omega

theorem slotPos_zero {N nl : ℕ} (hnl : 0 < nl) : slotPos N nl 0 = 0 := by
  unfold slotPos
  rw [if_pos (by omega)]

theorem slotPos_inj (N nl a b : ℕ) (hadm : Admissible N nl) (ha : a < nl) (hb : b < nl)
    (h : slotPos N nl a = slotPos N nl b) : a = b := by
  have ea := (sfreq_slotPos hadm.le ha).2
  rw [h, (sfreq_slotPos hadm.le hb).2] at ea
  exact sfreq_inj ha hb ea.symm

/-- the one place where the parity condition of `Admissible` enters: the centres of the window, of the
truncated and of the full spectrum line up -/
theorem Admissible.half {N nl : ℕ} (h : Admissible N nl) : (N - nl) / 2 + nl / 2 = N / 2 := by
  have hle := h.le
  rcases h.parity with h | h <;> omega

theorem sfreq_truncSrc {N nl a : ℕ} (hadm : Admissible N nl) (ha : a < nl) :
    truncSrc N nl ((N - nl) / 2) a < N ∧ sfreq N (truncSrc N nl ((N - nl) / 2) a) = sfreq nl a := by
  have h1 := ifftshiftIdx_cast ha
  have h2 := hadm.half
  have h3 := sfreq_bounds ha
  have hle := hadm.le
  have h4 := sfreq_fftshiftIdx (show ifftshiftIdx nl a + (N - nl) / 2 < N by omega)
  unfold truncSrc
  omega

/-- truncation: `ifftshift(fftshift(F)[d : d+nl])[a] = F[f(a) mod N]` -/
theorem trunc_index (N nl a : ℕ) (hadm : Admissible N nl) (ha : a < nl) :
    truncSrc N nl ((N - nl) / 2) a = slotPos N nl a := by
  obtain ⟨h1, h2⟩ := sfreq_truncSrc hadm ha
  obtain ⟨h3, h4⟩ := sfreq_slotPos hadm.le ha
  exact sfreq_inj h1 h3 (h2.trans h4.symm)

/-- window test used by `untrunc` for the full-spectrum index `A` -/
def inWindow (N nl A : ℕ) : Prop :=
  (N - nl) / 2 ≤ ifftshiftIdx N A ∧ ifftshiftIdx N A < (N - nl) / 2 + nl

theorem inWindow_iff {N nl A : ℕ} (hadm : Admissible N nl) (hA : A < N) :
    inWindow N nl A ↔ -((nl / 2 : ℕ) : ℤ) ≤ sfreq N A ∧ sfreq N A < (nl : ℤ) - (nl / 2 : ℕ) := by
  have h1 := ifftshiftIdx_cast hA
  have h2 := hadm.half
  unfold inWindow
  omega

/-- un-truncation fills an entry inside the window from the slot of the same signed frequency -/
theorem untrunc_slot {N nl A : ℕ} (hadm : Admissible N nl) (hA : A < N) (hw : inWindow N nl A) :
    fftshiftIdx nl (ifftshiftIdx N A - (N - nl) / 2) < nl ∧
      sfreq nl (fftshiftIdx nl (ifftshiftIdx N A - (N - nl) / 2)) = sfreq N A := by
  have h1 := ifftshiftIdx_cast hA
  have h2 := hadm.half
  unfold inWindow at hw
  have h4 := sfreq_fftshiftIdx (show ifftshiftIdx N A - (N - nl) / 2 < nl by omega)
  omega

/-- un-truncation hits: the full-spectrum entry at `f(a) mod N` is slot `a` -/
theorem untrunc_index_hit (N nl a : ℕ) (hadm : Admissible N nl) (ha : a < nl) :
    inWindow N nl (slotPos N nl a) ∧
      fftshiftIdx nl (ifftshiftIdx N (slotPos N nl a) - (N - nl) / 2) = a := by
  obtain ⟨h3, h4⟩ := sfreq_slotPos hadm.le ha
  have hw : inWindow N nl (slotPos N nl a) := by
    rw [inWindow_iff hadm h3, h4]
    exact sfreq_bounds ha
  obtain ⟨h1, h2⟩ := untrunc_slot hadm h3 hw
  exact ⟨hw, sfreq_inj h1 ha (h2.trans h4)⟩

/-- every in-range index inside the window is some `f(a) mod N`; read contrapositively, un-truncation puts 0 at an
index that is no `f(a) mod N` -/
theorem untrunc_index_window (N nl A : ℕ) (hadm : Admissible N nl) (hA : A < N)
    (hw : inWindow N nl A) :
    ∃ a, a < nl ∧ slotPos N nl a = A ∧ fftshiftIdx nl (ifftshiftIdx N A - (N - nl) / 2) = a := by
  obtain ⟨h1, h2⟩ := untrunc_slot hadm hA hw
  obtain ⟨h3, h4⟩ := sfreq_slotPos hadm.le h1
  exact ⟨_, h1, sfreq_inj h3 hA (h4.trans h2), rfl⟩

theorem clampModes_of_gt {nlx nly nxe nye : ℕ} (h : nlx > nxe ∨ nly > nye) :
    clampModes nlx nly nxe nye = (nxe, nye) := if_pos h

theorem clampModes_of_le {nlx nly nxe nye : ℕ} (hx : nlx ≤ nxe) (hy : nly ≤ nye) :
    clampModes nlx nly nxe nye = (nlx, nly) := if_neg (by omega)

/-- the clamp yields admissible sizes whenever the request passed the even-modes check -/
theorem clamp_admissible (nlx nly nxe nye : ℕ) (hx : 0 < nxe) (hy : 0 < nye)
    (hex : nlx % 2 = 0) (hey : nly % 2 = 0) (hpx : 0 < nlx) (hpy : 0 < nly) :
    Admissible nxe (clampModes nlx nly nxe nye).1 ∧ Admissible nye (clampModes nlx nly nxe nye).2 := by
  by_cases h : nlx > nxe ∨ nly > nye
  · rw [clampModes_of_gt h]
    exact ⟨⟨hx, le_refl _, Or.inr rfl⟩, ⟨hy, le_refl _, Or.inr rfl⟩⟩
  · have h' : nlx ≤ nxe ∧ nly ≤ nye := by omega
    rw [clampModes_of_le h'.1 h'.2]
    exact ⟨⟨hpx, h'.1, Or.inl hex⟩, ⟨hpy, h'.2, Or.inl hey⟩⟩

end BLDFM.Index
