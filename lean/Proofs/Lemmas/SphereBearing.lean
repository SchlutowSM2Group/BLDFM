/-
  Initial great-circle bearing against the local (equirectangular) bearing, on real variables only (no model).
  Throughout `c, s = cos φ₀, sin φ₀`, `a = Δφ`, `b = Δλ`, `c1 = cos (φ₀ + a)`; the initial great-circle direction is
  (north, east) = `(N, E) = (sin a + s c1 (1 − cos b), c1 sin b)`, the local one `(a, c b)` of length `t`.  Their cross
  product is of third order in `t`, their dot product is `t²` up to third order, so the tangent of the enclosed angle is of
  first order.
-/
import Proofs.Lemmas.SphereDist
import Mathlib.Analysis.SpecialFunctions.Complex.Arg

namespace BLDFM.C17

section
variable {a b t c s Sa Sb qa qb c1 : ℝ}

/-- fourth-order group of the cross product: `(1/3 + 4/3 + 1) t⁴`, rounded up -/
theorem G1_bound (hc : |c| ≤ 1) (hA : |a| ≤ t) (hB : |b| ≤ 2 * t)
    (hSa : |Sa - a| ≤ t ^ 3 / 6) (hSb : |Sb - b| ≤ (2 * t) ^ 3 / 6) (hSb' : |Sb| ≤ 2 * t) (hqa : |qa| ≤ t ^ 2 / 2) :
    |c * (b * (Sa - a)) - c * (a * (Sb - b)) + a * c * qa * Sb| ≤ 3 * t ^ 4 := by
  have ht0 : 0 ≤ t := (abs_nonneg a).trans hA
  calc _ ≤ |c * (b * (Sa - a))| + |c * (a * (Sb - b))| + |a * c * qa * Sb| :=
        (abs_add_le _ _).trans (add_le_add_left (abs_sub _ _) _)
    _ = |c| * (|b| * |Sa - a|) + |c| * (|a| * |Sb - b|) + |a| * |c| * |qa| * |Sb| := by simp only [abs_mul]
    _ ≤ 1 * (2 * t * (t ^ 3 / 6)) + 1 * (t * ((2 * t) ^ 3 / 6)) + t * 1 * (t ^ 2 / 2) * (2 * t) := by gcongr
    _ ≤ 3 * t ^ 4 := by linarith only [pow_nonneg ht0 4]

/-- third-order group of the cross product; `m` bounds `|s||b|`, `k` the ratio `c·c1 / c²` -/
theorem G2_bound {m k : ℝ} (ht : t ^ 2 = a ^ 2 + c ^ 2 * b ^ 2) (hm : |s| * |b| ≤ m) (hSa : |Sa| ≤ |a|) (hSb : |Sb| ≤ |b|)
    (hqb : 0 ≤ qb) (hqb' : qb ≤ b ^ 2 / 2) (hc : 0 ≤ c) (hc1 : 0 ≤ c1) (hk : c * c1 ≤ c ^ 2 * k) (hk1 : 1 ≤ k) :
    |s * (a * Sa * Sb) + s * (c * c1 * b * qb)| ≤ m * (k * t ^ 2) := by
  have hm0 : 0 ≤ m := (mul_nonneg (abs_nonneg s) (abs_nonneg b)).trans hm
  have e1 : a ^ 2 ≤ k * a ^ 2 := le_mul_of_one_le_left (sq_nonneg a) hk1
  have e2 : 0 ≤ c ^ 2 * k * b ^ 2 := by positivity
  calc _ ≤ |s * (a * Sa * Sb)| + |s * (c * c1 * b * qb)| := abs_add_le _ _
    _ = |s| * |Sb| * (|a| * |Sa|) + |s| * |b| * (c * c1 * qb) := by
        simp only [abs_mul, abs_of_nonneg hc, abs_of_nonneg hc1, abs_of_nonneg hqb]; ring
    _ ≤ |s| * |b| * (|a| * |a|) + |s| * |b| * (c ^ 2 * k * (b ^ 2 / 2)) := by gcongr
    _ = |s| * |b| * (a ^ 2 + c ^ 2 * k * b ^ 2 / 2) := by rw [← sq, sq_abs]; ring
    _ ≤ m * (k * t ^ 2) := mul_le_mul hm (by rw [ht]; linarith only [e1, e2]) (by positivity) hm0

/-- the two leading terms of the dot product -/
theorem dot_main (ht0 : 0 ≤ t) (ht1 : t ≤ 1 / 2) (hA : |a| ≤ t) (hB : |b| ≤ 2 * t)
    (hSa : |Sa - a| ≤ |a| ^ 3 / 6) (hSb : |Sb - b| ≤ |b| ^ 3 / 6) (h3 : c ^ 2 * (1 - 2 * t) ≤ c * c1) :
    (1 - 2 * t - 2 / 3 * t ^ 2) * (a ^ 2 + c ^ 2 * b ^ 2) ≤ c * c1 * (b * Sb) + a * Sa := by
  have ha := mul_sin_lower hSa hA
  have hb := mul_sin_lower hSb hB
  have hβ : 0 ≤ 1 - (2 * t) ^ 2 / 6 := by nlinarith only [ht0, ht1]
  have h1 : c ^ 2 * (1 - 2 * t) * (b ^ 2 * (1 - (2 * t) ^ 2 / 6)) ≤ c * c1 * (b * Sb) :=
    mul_le_mul h3 hb (mul_nonneg (sq_nonneg b) hβ) ((mul_nonneg (sq_nonneg c) (by linarith only [ht1])).trans h3)
  have h2 : 0 ≤ c ^ 2 * b ^ 2 * (t * t ^ 2) := by positivity
  have h4 : 0 ≤ a ^ 2 * (2 * t + 1 / 2 * t ^ 2) := by positivity
  linarith only [h1, ha, h2, h4]

/-- the mixed term of the dot product; `m` bounds `|s||b|` as in `G2_bound`, `k t` bounds `|c1||b|` (in `G2_bound` `k` is the ratio
`c·c1 / c²`; `cross_dot_bounds` takes `k = 1 + 2t` for both) -/
theorem dot_mixed {m k : ℝ} (hA : |a| ≤ t) (hm : |s| * |b| ≤ m) (hk : |c1| * |b| ≤ k * t)
    (hqb : 0 ≤ qb) (hqb' : qb ≤ b ^ 2 / 2) : |s * a * c1 * qb| ≤ m * (k * t ^ 2) / 2 := by
  have ht0 : 0 ≤ t := (abs_nonneg a).trans hA
  have hm0 : 0 ≤ m := (mul_nonneg (abs_nonneg s) (abs_nonneg b)).trans hm
  calc |s * a * c1 * qb| = |s| * |a| * |c1| * qb := by rw [abs_mul, abs_mul, abs_mul, abs_of_nonneg hqb]
    _ ≤ |s| * |a| * |c1| * (|b| * |b| / 2) := by rw [← sq, sq_abs]; gcongr
    _ = |s| * |b| * (|a| * (|c1| * |b|)) / 2 := by ring
    _ ≤ m * (t * (k * t)) / 2 := by gcongr
    _ = m * (k * t ^ 2) / 2 := by ring

end

/-- cross and dot product of the initial great-circle direction `(N, E)` with the local direction `(a, c b)`, for any
local angle `t ≤ 1/4`.  `c1` is the cosine of the latitude of the point, `c c1 = c² (1 ± 2t)`; the cross product is
of third order, led by `s (a Sa Sb + c c1 b (1 − Cb))`; the dot product is `t²` up to third order.  With `m = 7/4`
from `|s||b| ≤ 1.733 t ≤ m t` (`size_facts`): `13/2 = 3 + 2m`, `23/8 = 2 + m/2`, `29/12 = 2/3 + m` -/
theorem cross_dot_bounds {a b t c s Sa Ca Sb Cb c1 N E : ℝ} (hc : 1 / 2 ≤ c) (hcs : c ^ 2 + s ^ 2 = 1) (ht0 : 0 ≤ t)
    (ht : t ^ 2 = a ^ 2 + c ^ 2 * b ^ 2) (ht1 : t ≤ 1 / 4)
    (hSa : |Sa - a| ≤ |a| ^ 3 / 6) (hSb : |Sb - b| ≤ |b| ^ 3 / 6) (hSa' : |Sa| ≤ |a|) (hSb' : |Sb| ≤ |b|)
    (hCa : 1 - a ^ 2 / 2 ≤ Ca) (hCa1 : Ca ≤ 1) (hCb : 1 - b ^ 2 / 2 ≤ Cb) (hCb1 : Cb ≤ 1)
    (hc1 : c1 = c * Ca - s * Sa) (hN : N = Sa + s * c1 * (1 - Cb)) (hE : E = c1 * Sb) :
    |c * b * N - a * E| ≤ (7 / 4 + 13 / 2 * t) * t ^ 3 ∧
      (1 - (23 / 8 * t + 29 / 12 * t ^ 2)) * t ^ 2 ≤ c * b * E + a * N := by
  obtain ⟨hA, hcB, hB, hsb, -, hs2⟩ := size_facts a b t c s hc hcs ht0 ht
  have hc0 : 0 ≤ c := le_trans (by norm_num) hc
  have hc' : |c| ≤ 1 := abs_le_of_sq_le_sq (by linarith only [hcs, sq_nonneg s]) zero_le_one
  have hs : |s| ≤ 7 / 8 := abs_le_of_sq_le_sq (hs2.trans (by norm_num)) (by norm_num)
  have hm : |s| * |b| ≤ 7 / 4 * t := hsb.trans (mul_le_mul_of_nonneg_right (by norm_num) ht0)
  have hSat : |Sa - a| ≤ t ^ 3 / 6 := hSa.trans (by gcongr)
  have hSbt : |Sb - b| ≤ (2 * t) ^ 3 / 6 := hSb.trans (by gcongr)
  have hqa : |1 - Ca| ≤ t ^ 2 / 2 := by
    rw [abs_of_nonneg (sub_nonneg.2 hCa1)]
    linarith only [hCa, sq_le_sq' (abs_le.1 hA).1 (abs_le.1 hA).2]
  -- `7/8 t + t²/2 ≤ t` is where `t ≤ 1/4` is needed
  have hlip : |c1 - c| ≤ t := by
    have h1 : |c * (1 - Ca)| ≤ 1 * (t ^ 2 / 2) := abs_mul c _ ▸ mul_le_mul hc' hqa (abs_nonneg _) zero_le_one
    have h2 : |s * Sa| ≤ 7 / 8 * t := abs_mul s _ ▸ mul_le_mul hs (hSa'.trans hA) (abs_nonneg _) (by norm_num)
    have h3 : t ^ 2 ≤ 1 / 4 * t := sq t ▸ mul_le_mul_of_nonneg_right ht1 ht0
    calc |c1 - c| = |-(c * (1 - Ca)) - s * Sa| := by rw [hc1]; ring_nf
      _ ≤ |c * (1 - Ca)| + |s * Sa| := (abs_sub _ _).trans (by rw [abs_neg])
      _ ≤ t := by linarith only [h1, h2, h3]
  obtain ⟨h3, h4⟩ := mul_near_sq hc hlip
  obtain ⟨hl1, hl2⟩ := abs_le.1 hlip
  have hc10 : 0 ≤ c1 := by linarith only [hl1, hc, ht1]
  have hk : |c1| * |b| ≤ (1 + 2 * t) * t := by
    rw [abs_of_nonneg hc10]
    calc c1 * |b| ≤ (c + t) * |b| := mul_le_mul_of_nonneg_right (by linarith only [hl2]) (abs_nonneg b)
      _ ≤ (1 + 2 * t) * t := by linarith only [hcB, mul_le_mul_of_nonneg_left hB ht0]
  have hqb : 0 ≤ 1 - Cb := sub_nonneg.2 hCb1
  have hqb' : 1 - Cb ≤ b ^ 2 / 2 := by linarith only [hCb]
  have hG1 := G1_bound hc' hA hB hSat hSbt (hSb'.trans hB) hqa
  have hG2 := G2_bound ht hm hSa' hSb' hqb hqb' hc0 hc10 h4 (by linarith only [ht0])
  have hD1 := dot_main ht0 (ht1.trans (by norm_num)) hA hB hSa hSb h3
  have hD2 := dot_mixed hA hm hk hqb hqb'
  rw [← ht] at hD1
  have hcross : c * b * N - a * E = c * (b * (Sa - a)) - c * (a * (Sb - b)) + a * c * (1 - Ca) * Sb
      + (s * (a * Sa * Sb) + s * (c * c1 * b * (1 - Cb))) := by
    rw [hN, hE]; linear_combination (-(a * Sb)) * hc1
  have hdot : c * b * E + a * N = c * c1 * (b * Sb) + a * Sa + s * a * c1 * (1 - Cb) := by rw [hN, hE]; ring
  rw [hdot, hcross]
  constructor
  · refine ((abs_add_le _ _).trans (add_le_add hG1 hG2)).trans_eq ?_
    ring
  · linarith only [hD1, (abs_le.1 hD2).1]

/-- `X`, `D` stand for a cross and a dot product, as bounded in `cross_dot_bounds`; `κ` then bounds the tangent `X / D`
of the enclosed angle -/
theorem cross_le_mul_dot {t κ μ A B X D : ℝ} (hX : |X| ≤ A * t ^ 3) (hD : (1 - B) * t ^ 2 ≤ D)
    (hμ : B ≤ μ) (hκ : A * t ≤ κ * (1 - μ)) (hκ0 : 0 ≤ κ) : |X| ≤ κ * D ∧ (1 - μ) * t ^ 2 ≤ D := by
  have h1 : (1 - μ) * t ^ 2 ≤ D := (mul_le_mul_of_nonneg_right (by linarith only [hμ]) (sq_nonneg t)).trans hD
  have h2 : A * t ^ 3 ≤ κ * ((1 - μ) * t ^ 2) :=
    calc A * t ^ 3 = A * t * t ^ 2 := by ring
      _ ≤ κ * (1 - μ) * t ^ 2 := mul_le_mul_of_nonneg_right hκ (sq_nonneg t)
      _ = κ * ((1 - μ) * t ^ 2) := mul_assoc _ _ _
  exact ⟨hX.trans (h2.trans (mul_le_mul_of_nonneg_left h1 hκ0)), h1⟩

/-- the algebra of the bearing bound, free of trigonometric terms: `Sa, Ca, Sb, Cb` stand for
`sin a, cos a, sin b, cos b`, `c, s` for `cos φ₀, sin φ₀`; `E, N` are the east and north components of the
initial great-circle direction, `(c b, a)` those of the local direction -/
theorem bearing_alg (a b t c s Sa Ca Sb Cb : ℝ) (hc : 1 / 2 ≤ c) (hcs : c ^ 2 + s ^ 2 = 1) (ht0 : 0 ≤ t)
    (ht : t ^ 2 = a ^ 2 + c ^ 2 * b ^ 2) (hε : t ≤ 8 / 10000)
    (hSa : |Sa - a| ≤ |a| ^ 3 / 6) (hSb : |Sb - b| ≤ |b| ^ 3 / 6) (hSa' : |Sa| ≤ |a|) (hSb' : |Sb| ≤ |b|)
    (hCa : 1 - a ^ 2 / 2 ≤ Ca) (hCa1 : Ca ≤ 1) (hCb : 1 - b ^ 2 / 2 ≤ Cb) (hCb1 : Cb ≤ 1) :
    |c * b * (Sa * (c ^ 2 + s ^ 2 * Cb) + c * s * Ca * (1 - Cb)) - a * ((c * Ca - s * Sa) * Sb)|
        ≤ 1745 / 1000000 * (c * b * ((c * Ca - s * Sa) * Sb) + a * (Sa * (c ^ 2 + s ^ 2 * Cb) + c * s * Ca * (1 - Cb))) ∧
      (1 - 3 / 1000) * t ^ 2 ≤ c * b * ((c * Ca - s * Sa) * Sb) + a * (Sa * (c ^ 2 + s ^ 2 * Cb) + c * s * Ca * (1 - Cb)) := by
  have hN : Sa * (c ^ 2 + s ^ 2 * Cb) + c * s * Ca * (1 - Cb) = Sa + s * (c * Ca - s * Sa) * (1 - Cb) := by
    linear_combination Sa * hcs
  obtain ⟨hX, hD⟩ := cross_dot_bounds (c1 := c * Ca - s * Sa) (N := Sa * (c ^ 2 + s ^ 2 * Cb) + c * s * Ca * (1 - Cb))
    (E := (c * Ca - s * Sa) * Sb) hc hcs ht0 ht (hε.trans (by norm_num)) hSa hSb hSa' hSb' hCa hCa1 hCb hCb1 rfl hN rfl
  have ht2 : t ^ 2 ≤ (8 / 10000) ^ 2 := pow_le_pow_left₀ ht0 hε 2
  have hμ : 23 / 8 * t + 29 / 12 * t ^ 2 ≤ 3 / 1000 := by linarith only [hε, ht2]
  have hκ : (7 / 4 + 13 / 2 * t) * t ≤ 1745 / 1000000 * (1 - 3 / 1000) := by linarith only [hε, ht2]
  exact cross_le_mul_dot hX hD hμ hκ (by norm_num)

theorem abs_le_abs_tan (δ : ℝ) (h : |δ| < Real.pi / 2) : |δ| ≤ |Real.tan δ| := by
  rcases le_total 0 δ with h0 | h0
  · rw [abs_of_nonneg h0] at h ⊢
    exact (Real.le_tan h0 h).trans (le_abs_self _)
  · rw [abs_of_nonpos h0] at h ⊢
    exact (Real.le_tan (neg_nonneg.2 h0) h).trans (Real.tan_neg δ ▸ neg_le_abs _)

theorem abs_arg_le_of_abs_im_le {w : ℂ} {κ : ℝ} (hκ : 0 ≤ κ) (hre : 0 ≤ w.re) (h : |w.im| ≤ κ * w.re) :
    |Complex.arg w| ≤ κ := by
  rcases hre.eq_or_lt with h0 | hpos
  · have hw : w = 0 := Complex.ext h0.symm (abs_nonpos_iff.1 (by rwa [← h0, mul_zero] at h))
    rwa [hw, Complex.arg_zero, abs_zero]
  · refine (abs_le_abs_tan _ (Complex.abs_arg_lt_pi_div_two_iff.2 (Or.inl hpos))).trans ?_
    rwa [Complex.tan_arg, abs_div, abs_of_pos hpos, div_le_iff₀ hpos]

/-- core statement in radians: the signed angle between the local direction `(north, east) = (a, cos φ₀ · b)` and
the initial great-circle direction is at most `1.745·10⁻³` -/
theorem bearing_core {φ₀ a b t : ℝ} (hc : 1 / 2 ≤ Real.cos φ₀) (ht0 : 0 ≤ t)
    (ht : t ^ 2 = a ^ 2 + Real.cos φ₀ ^ 2 * b ^ 2) (hε : t ≤ 8 / 10000) :
    |Complex.arg ((⟨Real.cos φ₀ * Real.sin (φ₀ + a) - Real.sin φ₀ * Real.cos (φ₀ + a) * Real.cos b,
        Real.sin b * Real.cos (φ₀ + a)⟩ : ℂ) * (starRingEnd ℂ) ⟨a, Real.cos φ₀ * b⟩)| ≤ 1745 / 1000000 := by
  obtain ⟨hcr, hdot⟩ := bearing_alg a b t (Real.cos φ₀) (Real.sin φ₀) (Real.sin a) (Real.cos a) (Real.sin b) (Real.cos b)
    hc (Real.cos_sq_add_sin_sq φ₀) ht0 ht hε (abs_sin_sub_le a) (abs_sin_sub_le b)
    Real.abs_sin_le_abs Real.abs_sin_le_abs Real.one_sub_sq_div_two_le_cos (Real.cos_le_one a)
    Real.one_sub_sq_div_two_le_cos (Real.cos_le_one b)
  have hN : Real.cos φ₀ * Real.sin (φ₀ + a) - Real.sin φ₀ * Real.cos (φ₀ + a) * Real.cos b
      = Real.sin a * (Real.cos φ₀ ^ 2 + Real.sin φ₀ ^ 2 * Real.cos b)
        + Real.cos φ₀ * Real.sin φ₀ * Real.cos a * (1 - Real.cos b) := by
    rw [Real.sin_add, Real.cos_add]; ring
  have hE : Real.sin b * Real.cos (φ₀ + a)
      = (Real.cos φ₀ * Real.cos a - Real.sin φ₀ * Real.sin a) * Real.sin b := by
    rw [Real.cos_add]; ring
  rw [hN, hE]
  generalize (Real.cos φ₀ * Real.cos a - Real.sin φ₀ * Real.sin a) * Real.sin b = E at *
  generalize Real.sin a * (Real.cos φ₀ ^ 2 + Real.sin φ₀ ^ 2 * Real.cos b)
    + Real.cos φ₀ * Real.sin φ₀ * Real.cos a * (1 - Real.cos b) = N at *
  generalize Real.cos φ₀ = c at *
  have hre : ((⟨N, E⟩ : ℂ) * (starRingEnd ℂ) ⟨a, c * b⟩).re = c * b * E + a * N := by
    simp only [Complex.mul_re, Complex.conj_re, Complex.conj_im]; ring
  have him : ((⟨N, E⟩ : ℂ) * (starRingEnd ℂ) ⟨a, c * b⟩).im = -(c * b * N - a * E) := by
    simp only [Complex.mul_im, Complex.conj_re, Complex.conj_im]; ring
  refine abs_arg_le_of_abs_im_le (by norm_num) ?_ ?_
  · rw [hre]; exact le_trans (by positivity) hdot
  · rwa [hre, him, abs_neg]

end BLDFM.C17
