/-
  The layer map of the sweep as a map of the pair `x = (p, q)`, in the max-norm of `ℂ × ℂ`:
  `layerStep T k dz` is the degree-3 Taylor polynomial of `exp (dz • colGen T k)`, where
  `colGen T k (p, q) = (-k q, T p)` is the right-hand side of the frozen-coefficient column equations.
  Stability (`norm_layerStep_le`) and consistency with a solution of the variable-coefficient equations
  (`layerStep_consistency`) are read off that form.
-/
import Proofs.Lemmas.Spec
import Mathlib.Analysis.Calculus.MeanValue

open BLDFM Set

namespace BLDFM

def colGen (T k : ℂ) (x : ℂ × ℂ) : ℂ × ℂ := (-k * x.2, T * x.1)

theorem colGen_smul (T k c : ℂ) (x : ℂ × ℂ) : colGen T k (c • x) = c • colGen T k x := by
  ext <;> simp [colGen] <;> ring

theorem colGen_sub_colGen (T T' k k' : ℂ) (x y : ℂ × ℂ) :
    colGen T k x - colGen T' k' y = colGen (T - T') (k - k') x + colGen T' k' (x - y) := by
  ext <;> simp [colGen] <;> ring

theorem norm_colGen_le {T k : ℂ} {a : ℝ} (hT : ‖T‖ ≤ a) (hk : ‖k‖ ≤ a) (x : ℂ × ℂ) :
    ‖colGen T k x‖ ≤ a * ‖x‖ := by
  have ha : 0 ≤ a := (norm_nonneg T).trans hT
  refine norm_prod_le_iff.2 ⟨?_, ?_⟩
  · rw [colGen, norm_mul, norm_neg]
    exact mul_le_mul hk (norm_snd_le x) (norm_nonneg _) ha
  · rw [colGen, norm_mul]
    exact mul_le_mul hT (norm_fst_le x) (norm_nonneg _) ha

/-! the layer coefficients without the floating-point literals of the model -/
theorem coefA_eq (T k dz : ℂ) : coefA T k dz = 1 - k * T * dz ^ 2 / 2 := by
  have h1 : (1.0 : ℂ) = 1 := by norm_num
  have h5 : (0.5 : ℂ) = 1 / 2 := by norm_num
  rw [coefA, h1, h5]; ring

theorem coefB_eq (T k dz : ℂ) : coefB T k dz = -(k * dz) + k ^ 2 * T * dz ^ 3 / 6 := by
  have h1 : (1.0 : ℂ) = 1 := by norm_num
  have h6 : (6.0 : ℂ) = 6 := by norm_num
  rw [coefB, h1, h6]; ring

theorem coefC_eq (T k dz : ℂ) : coefC T k dz = T * dz - k * T ^ 2 * dz ^ 3 / 6 := by
  have h1 : (1.0 : ℂ) = 1 := by norm_num
  have h6 : (6.0 : ℂ) = 6 := by norm_num
  rw [coefC, h1, h6]; ring

theorem coefD_eq (T k dz : ℂ) : coefD T k dz = 1 - k * T * dz ^ 2 / 2 := coefA_eq T k dz

theorem layerStep_eq_taylor (T k dz : ℂ) (x : ℂ × ℂ) :
    layerStep T k dz x = x + dz • colGen T k x + (dz ^ 2 / 2) • colGen T k (colGen T k x)
      + (dz ^ 3 / 6) • colGen T k (colGen T k (colGen T k x)) := by
  simp only [layerStep, coefA_eq, coefB_eq, coefC_eq, coefD_eq, colGen]
  refine Prod.ext ?_ ?_
  · simp only [Prod.fst_add, Prod.smul_fst, smul_eq_mul]
    ring
  · simp only [Prod.snd_add, Prod.smul_snd, smul_eq_mul]
    ring

theorem norm_layerStep_sub_euler_le {T k : ℂ} {a dz : ℝ} (hT : ‖T‖ ≤ a) (hk : ‖k‖ ≤ a) (h0 : 0 ≤ dz) (h1 : dz ≤ 1)
    (x : ℂ × ℂ) :
    ‖x + (dz : ℂ) • colGen T k x - layerStep T k (dz : ℂ) x‖ ≤ (a ^ 2 / 2 + a ^ 3 / 6) * dz ^ 2 * ‖x‖ := by
  have ha : 0 ≤ a := (norm_nonneg T).trans hT
  have h2 : ‖colGen T k (colGen T k x)‖ ≤ a * (a * ‖x‖) :=
    (norm_colGen_le hT hk _).trans (mul_le_mul_of_nonneg_left (norm_colGen_le hT hk x) ha)
  have h3 : ‖colGen T k (colGen T k (colGen T k x))‖ ≤ a * (a * (a * ‖x‖)) :=
    (norm_colGen_le hT hk _).trans (mul_le_mul_of_nonneg_left h2 ha)
  have d3 : dz ^ 3 ≤ dz ^ 2 := pow_le_pow_of_le_one h0 h1 (by norm_num)
  rw [layerStep_eq_taylor, add_assoc (x + _), sub_add_cancel_left, norm_neg]
  refine (norm_add_le _ _).trans ?_
  rw [norm_smul, norm_smul, norm_div, norm_div, norm_pow, norm_pow, Complex.norm_real, Real.norm_of_nonneg h0,
    Complex.norm_ofNat, Complex.norm_ofNat]
  calc dz ^ 2 / 2 * ‖colGen T k (colGen T k x)‖ + dz ^ 3 / 6 * ‖colGen T k (colGen T k (colGen T k x))‖
      ≤ dz ^ 2 / 2 * (a * (a * ‖x‖)) + dz ^ 2 / 6 * (a * (a * (a * ‖x‖))) := by gcongr
    _ = (a ^ 2 / 2 + a ^ 3 / 6) * dz ^ 2 * ‖x‖ := by ring

theorem norm_layerStep_le {T k : ℂ} {a dz : ℝ} (hT : ‖T‖ ≤ a) (hk : ‖k‖ ≤ a) (h0 : 0 ≤ dz) (h1 : dz ≤ 1) (x : ℂ × ℂ) :
    ‖layerStep T k (dz : ℂ) x‖ ≤ (1 + (a + a ^ 2 / 2 + a ^ 3 / 6) * dz) * ‖x‖ := by
  have ha : 0 ≤ a := (norm_nonneg T).trans hT
  have d2 : dz ^ 2 ≤ dz := by simpa using pow_le_pow_of_le_one h0 h1 one_le_two
  have euler : ‖x + (dz : ℂ) • colGen T k x‖ ≤ (1 + a * dz) * ‖x‖ := by
    refine (norm_add_le _ _).trans ?_
    rw [norm_smul, Complex.norm_real, Real.norm_of_nonneg h0, add_mul, one_mul, mul_comm a, mul_assoc]
    gcongr
    exact norm_colGen_le hT hk x
  calc ‖layerStep T k (dz : ℂ) x‖
      ≤ ‖x + (dz : ℂ) • colGen T k x‖ + ‖x + (dz : ℂ) • colGen T k x - layerStep T k (dz : ℂ) x‖ :=
        norm_le_norm_add_norm_sub _ _
    _ ≤ (1 + a * dz) * ‖x‖ + (a ^ 2 / 2 + a ^ 3 / 6) * dz ^ 2 * ‖x‖ :=
        add_le_add euler (norm_layerStep_sub_euler_le hT hk h0 h1 x)
    _ ≤ (1 + a * dz) * ‖x‖ + (a ^ 2 / 2 + a ^ 3 / 6) * dz * ‖x‖ := by gcongr
    _ = (1 + (a + a ^ 2 / 2 + a ^ 3 / 6) * dz) * ‖x‖ := by ring

theorem hasDerivAt_cexp_mul_ofReal (c : ℂ) (z : ℝ) :
    HasDerivAt (fun z : ℝ => Complex.exp (c * (z : ℂ))) (Complex.exp (c * (z : ℂ)) * c) z := by
  simpa using ((hasDerivAt_id z).ofReal_comp.const_mul c).cexp

/-- first-order Taylor remainder from a bound on the variation of the derivative -/
theorem norm_sub_sub_smul_le {E : Type*} [NormedAddCommGroup E] [NormedSpace ℝ E] {f f' : ℝ → E} {z dz K : ℝ}
    (h0 : 0 ≤ dz) (hf : ∀ s ∈ Icc z (z + dz), HasDerivAt f (f' s) s)
    (hK : ∀ s ∈ Icc z (z + dz), ‖f' s - f' z‖ ≤ K) :
    ‖f (z + dz) - f z - dz • f' z‖ ≤ K * dz := by
  have hg : ∀ s ∈ Icc z (z + dz),
      HasDerivWithinAt (fun s => f s - (s - z) • f' z) (f' s - f' z) (Icc z (z + dz)) s := by
    intro s hs
    have h := (hf s hs).sub (((hasDerivAt_id s).sub_const z).smul_const (f' z))
    rw [one_smul] at h
    exact h.hasDerivWithinAt
  have h := (convex_Icc z (z + dz)).norm_image_sub_le_of_norm_hasDerivWithin_le hg hK
    (left_mem_Icc.2 (le_add_of_nonneg_right h0)) (right_mem_Icc.2 (le_add_of_nonneg_right h0))
  rw [add_sub_cancel_left, sub_self, zero_smul, sub_zero, Real.norm_of_nonneg h0] at h
  rwa [sub_right_comm]

section Consistency

/-! `Y` solves `Y' = colGen (Tc s) (kc s) Y` on the layer, the coefficients are bounded by `a` and move by at most
`Λ (s - z)`, `Y` is bounded by `B` -/
variable {Tc kc : ℝ → ℂ} {Y : ℝ → ℂ × ℂ} {z dz a B Λ : ℝ} (h0 : 0 ≤ dz) (hΛ : 0 ≤ Λ)
  (hY : ∀ s ∈ Icc z (z + dz), HasDerivAt Y (colGen (Tc s) (kc s) (Y s)) s)
  (hTa : ∀ s ∈ Icc z (z + dz), ‖Tc s‖ ≤ a) (hka : ∀ s ∈ Icc z (z + dz), ‖kc s‖ ≤ a)
  (hB : ∀ s ∈ Icc z (z + dz), ‖Y s‖ ≤ B)
  (hTl : ∀ s ∈ Icc z (z + dz), ‖Tc s - Tc z‖ ≤ Λ * (s - z))
  (hkl : ∀ s ∈ Icc z (z + dz), ‖kc s - kc z‖ ≤ Λ * (s - z))
include h0 hΛ hY hTa hka hB hTl hkl

theorem colGen_euler_consistency :
    ‖Y (z + dz) - (Y z + (dz : ℂ) • colGen (Tc z) (kc z) (Y z))‖ ≤ (Λ * B + a ^ 2 * B) * dz ^ 2 := by
  have hz : z ∈ Icc z (z + dz) := left_mem_Icc.2 (le_add_of_nonneg_right h0)
  have ha : 0 ≤ a := (norm_nonneg _).trans (hTa z hz)
  have hB0 : 0 ≤ B := (norm_nonneg _).trans (hB z hz)
  have lip : ∀ s ∈ Icc z (z + dz), ‖Y s - Y z‖ ≤ a * B * (s - z) := by
    intro s hs
    have h := (convex_Icc z (z + dz)).norm_image_sub_le_of_norm_hasDerivWithin_le
      (fun x hx => (hY x hx).hasDerivWithinAt)
      (fun x hx => (norm_colGen_le (hTa x hx) (hka x hx) _).trans (mul_le_mul_of_nonneg_left (hB x hx) ha)) hz hs
    rwa [Real.norm_of_nonneg (sub_nonneg.2 hs.1)] at h
  rw [Complex.coe_smul, ← sub_sub, pow_two dz, ← mul_assoc]
  -- the higher-order unifier is slow on `f' z` unless told what `f'` is
  refine norm_sub_sub_smul_le (f := Y) (f' := fun s => colGen (Tc s) (kc s) (Y s)) h0 hY fun s hs => ?_
  have hsd : s - z ≤ dz := sub_le_iff_le_add'.2 hs.2
  -- the coefficients move by `Λ (s - z)` and act on `Y s`; the frozen generator acts on `Y s - Y z`
  calc ‖colGen (Tc s) (kc s) (Y s) - colGen (Tc z) (kc z) (Y z)‖
      ≤ Λ * (s - z) * ‖Y s‖ + a * ‖Y s - Y z‖ := by
        rw [colGen_sub_colGen]
        exact (norm_add_le _ _).trans
          (add_le_add (norm_colGen_le (hTl s hs) (hkl s hs) _) (norm_colGen_le (hTa z hz) (hka z hz) _))
    _ ≤ Λ * (s - z) * B + a * (a * B * (s - z)) :=
        add_le_add (mul_le_mul_of_nonneg_left (hB s hs) (mul_nonneg hΛ (sub_nonneg.2 hs.1)))
          (mul_le_mul_of_nonneg_left (lip s hs) ha)
    _ = (Λ * B + a ^ 2 * B) * (s - z) := by ring
    _ ≤ (Λ * B + a ^ 2 * B) * dz := mul_le_mul_of_nonneg_left hsd (by positivity)

/-- local error (consistency) of one layer against an exact solution, `dz ≤ 1`: `≤ C·dz²`,
`C = ΛB + a²B + a²B/2 + a³B/6` (Euler part + the higher Taylor terms of `norm_layerStep_sub_euler_le`) -/
theorem layerStep_consistency (h1 : dz ≤ 1) :
    ‖Y (z + dz) - layerStep (Tc z) (kc z) (dz : ℂ) (Y z)‖
      ≤ (Λ * B + a ^ 2 * B + a ^ 2 * B / 2 + a ^ 3 * B / 6) * dz ^ 2 := by
  have hz : z ∈ Icc z (z + dz) := left_mem_Icc.2 (le_add_of_nonneg_right h0)
  have ha : 0 ≤ a := (norm_nonneg _).trans (hTa z hz)
  calc ‖Y (z + dz) - layerStep (Tc z) (kc z) (dz : ℂ) (Y z)‖
      ≤ ‖Y (z + dz) - (Y z + (dz : ℂ) • colGen (Tc z) (kc z) (Y z))‖
        + ‖Y z + (dz : ℂ) • colGen (Tc z) (kc z) (Y z) - layerStep (Tc z) (kc z) (dz : ℂ) (Y z)‖ :=
        norm_sub_le_norm_sub_add_norm_sub _ _ _
    _ ≤ (Λ * B + a ^ 2 * B) * dz ^ 2 + (a ^ 2 / 2 + a ^ 3 / 6) * dz ^ 2 * B :=
        add_le_add (colGen_euler_consistency h0 hΛ hY hTa hka hB hTl hkl)
          ((norm_layerStep_sub_euler_le (hTa z hz) (hka z hz) h0 h1 _).trans
            (mul_le_mul_of_nonneg_left (hB z hz) (by positivity)))
    _ = (Λ * B + a ^ 2 * B + a ^ 2 * B / 2 + a ^ 3 * B / 6) * dz ^ 2 := by ring

end Consistency

end BLDFM
