/-
  What one spectral slot sees of a request.  `modeCoef` reaches the profiles and the wavenumbers only through the
  layer coefficients `T_i` (`Tcoef`), `Kz_i`, the node heights, the background and the slot's source coefficient;
  it is linear in the latter and covariant under the two-parameter similarity "all lengths × γ, all velocities × μ".
  Length similarity is `γ = s`, velocity similarity `μ = s`.  The case `μ = γ = 1` (`column_congr`, `modeCoef_congr`: slots
  that see the same data carry the same coefficients) serves the mirror images, the axis swap and the wind reversal, each
  through one `Tcoef` identity, and source translation (C06b) and the low-pass clause (C11b), where the two slots have the
  same wavenumbers.
-/
import Proofs.Lemmas.Csqrt
import Proofs.Lemmas.Layer
import Proofs.C04

open BLDFM BLDFM.Spec

namespace BLDFM.Spec

noncomputable def column (ana : Bool) (P : Profiles ℝ) (z : ℕ → ℝ) (top : ℕ) (Lx Ly : ℝ) (qh : ℂ) (l : ℕ) : ℂ × ℂ :=
  if ana then columnAna RC P z top Lx Ly qh l else columnNum RC P z top Lx Ly qh l

noncomputable def meanMode (ana : Bool) (P : Profiles ℝ) (z : ℕ → ℝ) (top : ℕ) (bg q00 : ℂ) (l : ℕ) : ℂ :=
  if ana then meanAna RC P z top bg q00 l else meanNum RC P z bg q00 l

theorem modeCoef_RC (req : SolveReq ℝ) (g : Geom ℝ) (S : ℕ → ℕ → ℂ) (l a b : ℕ) :
    modeCoef RC req g S l a b =
      if a = 0 ∧ b = 0 then (meanMode req.analytic req.P req.z (req.nz - 1) (req.bg : ℂ) (S a b) l, S a b)
      else column req.analytic req.P req.z (req.nz - 1) (waveX RC g b) (waveY RC g a) (S a b) l := by
  unfold modeCoef column meanMode
  simp only [storeP_RC]
  split
  · rename_i h
    rw [h.1, h.2]
    cases req.analytic <;> rfl
  · cases req.analytic <;> rfl

/-- one layer under `T ↦ μ T / γ`, `1/Kz ↦ 1/(μ γ Kz)`, `dz ↦ γ dz` (`γ` scales the lengths, `μ` the velocities):
the state `(p, q)` becomes `(p / μ, q)`.  The layer coefficients depend on `Kz⁻¹ T dz²` (invariant), `Kz⁻¹ dz` and `T dz`. -/
theorem layer_similarity (T k dz μ γ : ℂ) (hμ : μ ≠ 0) (hγ : γ ≠ 0) (p q : ℂ) :
    layerStep (μ / γ * T) (k / (μ * γ)) (γ * dz) (p / μ, q) =
      ((layerStep T k dz (p, q)).1 / μ, (layerStep T k dz (p, q)).2) := by
  simp only [layerStep, coefA_eq, coefB_eq, coefC_eq, coefD_eq]
  refine Prod.ext ?_ ?_
  · field_simp
  · field_simp

/-- the shooting coefficient when the first sweep's flux is multiplied and the second sweep's concentration divided by `μ`
(no condition on the denominator: both sides vanish with it) -/
theorem alphaShoot_similarity {K K' : ℝ} {lam lam' μ : ℂ} (s1 s2 : ℂ × ℂ) (hμ : μ ≠ 0)
    (hK : RC.ofReal K' * lam' = μ * (RC.ofReal K * lam)) :
    alphaShoot RC K' lam' (s1.1, μ * s1.2) (s2.1 / μ, s2.2) = alphaShoot RC K lam s1 s2 / μ := by
  simp only [alphaShoot, hK]
  rw [show μ * (RC.ofReal K * lam) * (s2.1 / μ) = RC.ofReal K * lam * s2.1 by field_simp,
    show μ * s1.2 - μ * (RC.ofReal K * lam) * s1.1 = μ * (s1.2 - RC.ofReal K * lam * s1.1) by ring,
    div_mul_eq_div_div_swap]

section similarity
variable {P P' : Profiles ℝ} {z z' : ℕ → ℝ} {Lx Ly Lx' Ly' μ γ : ℝ} (hμ : μ ≠ 0)
  (hT : ∀ i, Tcoef RC P' Lx' Ly' i = (μ : ℂ) / γ * Tcoef RC P Lx Ly i)
  (hK : ∀ i, P'.Kz i = μ * γ * P.Kz i) (hz : ∀ i, z' i = γ * z i)

include hK in
theorem Kzinv_similarity (i : ℕ) : RC.ofReal (1.0 / P'.Kz i) = RC.ofReal (1.0 / P.Kz i) / ((μ : ℂ) * γ) := by
  rw [hK, mul_comm (μ * γ), ← div_div, RC_ofReal, RC_ofReal, Complex.ofReal_div (1.0 / P.Kz i), Complex.ofReal_mul]

include hz in
theorem dz_similarity (i j : ℕ) : RC.ofReal (z' i - z' j) = (γ : ℂ) * RC.ofReal (z i - z j) := by
  rw [hz, hz, ← mul_sub, RC_ofReal, RC_ofReal, Complex.ofReal_mul]

include hμ hT hK hz in
theorem ivp_similarity (hγ : γ ≠ 0) (p q : ℂ) (l : ℕ) :
    ivpState RC P' z' Lx' Ly' (p / μ, q) l =
      ((ivpState RC P z Lx Ly (p, q) l).1 / μ, (ivpState RC P z Lx Ly (p, q) l).2) := by
  induction l with
  | zero => rfl
  | succ l ih =>
    simp only [ivpState, ih, hT, Kzinv_similarity hK, dz_similarity hz]
    exact layer_similarity _ _ _ _ _ (Complex.ofReal_ne_zero.mpr hμ) (Complex.ofReal_ne_zero.mpr hγ) _ _

include hμ hK hz in
theorem resistNum_similarity (hγ : γ ≠ 0) (l : ℕ) : resistNum P' z' l = resistNum P z l / μ := by
  unfold resistNum
  rw [sumN_lit_eq_sum, sumN_lit_eq_sum, Finset.sum_div]
  refine Finset.sum_congr rfl fun i _ => ?_
  rw [hz, hz, hK, hK]
  field_simp

include hμ hK hz in
theorem meanMode_similarity (hγ : γ ≠ 0) (ana : Bool) (top : ℕ) (bg q00 : ℂ) (l : ℕ) :
    meanMode ana P' z' top (bg / μ) q00 l = meanMode ana P z top bg q00 l / μ := by
  have hμc : (μ : ℂ) ≠ 0 := Complex.ofReal_ne_zero.mpr hμ
  have hγc : (γ : ℂ) ≠ 0 := Complex.ofReal_ne_zero.mpr hγ
  cases ana
  · simp only [meanMode, Bool.false_eq_true, if_false, meanNum, resistNum_similarity hμ hK hz hγ, RC_ofReal]
    push_cast
    ring
  · simp only [meanMode, if_true, meanAna, Kzinv_similarity hK, dz_similarity hz]
    field_simp

include hμ hT hK in
theorem eigval_similarity (hγ : 0 < γ) (top : ℕ) : eigval RC P' top Lx' Ly' = eigval RC P top Lx Ly / (γ : ℂ) := by
  have hμc : (μ : ℂ) ≠ 0 := Complex.ofReal_ne_zero.mpr hμ
  have hγc : (γ : ℂ) ≠ 0 := Complex.ofReal_ne_zero.mpr hγ.ne'
  rw [eigval_eq_Tcoef, eigval_eq_Tcoef, ← csqrt_div_sq _ γ hγ, hT, hK]
  congr 1
  push_cast
  field_simp

include hμ hT hK hz in
theorem column_similarity (hγ : 0 < γ) (ana : Bool) (top : ℕ) (qh : ℂ) (l : ℕ) :
    column ana P' z' top Lx' Ly' qh l =
      ((column ana P z top Lx Ly qh l).1 / μ, (column ana P z top Lx Ly qh l).2) := by
  have hμc : (μ : ℂ) ≠ 0 := Complex.ofReal_ne_zero.mpr hμ
  have hγc : (γ : ℂ) ≠ 0 := Complex.ofReal_ne_zero.mpr hγ.ne'
  have hlam := eigval_similarity hμ hT hK hγ top
  cases ana
  · -- `(1, 0) = (μ / μ, 0)`, and the sweep of `P` from `(μ, 0)` is `μ` times the one from `(1, 0)`; `(0, q̂) = (0 / μ, q̂)`
    have h1 : ∀ m, ivpState RC P' z' Lx' Ly' ((1.0 : ℂ), (0.0 : ℂ)) m =
        ((ivpState RC P z Lx Ly ((1.0 : ℂ), (0.0 : ℂ)) m).1, (μ : ℂ) * (ivpState RC P z Lx Ly ((1.0 : ℂ), (0.0 : ℂ)) m).2) := by
      intro m
      have e := ivp_similarity hμ hT hK hz hγ.ne' ((μ : ℂ) * 1.0) ((μ : ℂ) * 0.0) m
      rw [C04.ivp_smul, mul_div_cancel_left₀ _ hμc, mul_div_cancel_left₀ _ hμc] at e
      rwa [show (μ : ℂ) * 0.0 = 0.0 by norm_num] at e
    have h2 : ∀ m, ivpState RC P' z' Lx' Ly' ((0.0 : ℂ), qh) m =
        ((ivpState RC P z Lx Ly ((0.0 : ℂ), qh) m).1 / μ, (ivpState RC P z Lx Ly ((0.0 : ℂ), qh) m).2) := by
      intro m
      have e := ivp_similarity hμ hT hK hz hγ.ne' 0.0 qh m
      rwa [show (0.0 : ℂ) / μ = 0.0 by norm_num] at e
    have hkz : RC.ofReal (P'.Kz top) * (eigval RC P top Lx Ly / (γ : ℂ))
        = (μ : ℂ) * (RC.ofReal (P.Kz top) * eigval RC P top Lx Ly) := by
      rw [hK, RC_ofReal, RC_ofReal]
      push_cast
      field_simp
    simp only [column, Bool.false_eq_true, if_false, columnNum, h1, h2, hlam, alphaShoot_similarity _ _ hμc hkz]
    refine Prod.ext ?_ ?_
    · simp only []
      ring
    · simp only []
      field_simp
  · simp only [column, if_true, columnAna, hlam, Kzinv_similarity hK, dz_similarity hz]
    -- no condition on `λ`: the factor `γ` cancels between `1 / (μ γ Kz)` and `λ / γ`
    rw [show -(eigval RC P top Lx Ly / (γ : ℂ)) * ((γ : ℂ) * RC.ofReal (z l - z 0))
        = -eigval RC P top Lx Ly * RC.ofReal (z l - z 0) by field_simp,
      ← div_div, ← mul_div_assoc, div_div_div_cancel_right₀ hγc]
    refine Prod.ext ?_ rfl
    ring

end similarity

/-- … without rescaling: sweep, eigenvalue and column see profiles and wavenumbers only through the `T_i` and `Kz` -/
theorem ivp_congr {P P' : Profiles ℝ} {Lx Ly Lx' Ly' : ℝ} (hT : ∀ i, Tcoef RC P' Lx' Ly' i = Tcoef RC P Lx Ly i)
    (hK : P'.Kz = P.Kz) (z : ℕ → ℝ) (pq0 : ℂ × ℂ) (l : ℕ) :
    ivpState RC P' z Lx' Ly' pq0 l = ivpState RC P z Lx Ly pq0 l := by
  have hT1 : ∀ i, Tcoef RC P' Lx' Ly' i = ((1 : ℝ) : ℂ) / ((1 : ℝ) : ℂ) * Tcoef RC P Lx Ly i := fun i => by
    rw [hT, Complex.ofReal_one, div_one, one_mul]
  have hK1 : ∀ i, P'.Kz i = 1 * 1 * P.Kz i := fun i => by rw [hK, one_mul, one_mul]
  have h := ivp_similarity (P := P) (Lx := Lx) (Ly := Ly) (μ := 1) (γ := 1) one_ne_zero (hT := hT1) (hK := hK1)
    (fun i => (one_mul (z i)).symm) one_ne_zero pq0.1 pq0.2 l
  rwa [Complex.ofReal_one, div_one, div_one] at h

theorem eigval_congr {P P' : Profiles ℝ} {Lx Ly Lx' Ly' : ℝ} (hT : ∀ i, Tcoef RC P' Lx' Ly' i = Tcoef RC P Lx Ly i)
    (hK : P'.Kz = P.Kz) (top : ℕ) : eigval RC P' top Lx' Ly' = eigval RC P top Lx Ly := by
  have hT1 : ∀ i, Tcoef RC P' Lx' Ly' i = ((1 : ℝ) : ℂ) / ((1 : ℝ) : ℂ) * Tcoef RC P Lx Ly i := fun i => by
    rw [hT, Complex.ofReal_one, div_one, one_mul]
  have hK1 : ∀ i, P'.Kz i = 1 * 1 * P.Kz i := fun i => by rw [hK, one_mul, one_mul]
  have h := eigval_similarity (P := P) (Lx := Lx) (Ly := Ly) (μ := 1) (γ := 1) one_ne_zero (hT := hT1) (hK := hK1) one_pos top
  rwa [Complex.ofReal_one, div_one] at h

theorem column_congr (ana : Bool) {P P' : Profiles ℝ} {Lx Ly Lx' Ly' : ℝ}
    (hT : ∀ i, Tcoef RC P' Lx' Ly' i = Tcoef RC P Lx Ly i) (hK : P'.Kz = P.Kz) (z : ℕ → ℝ) (top : ℕ) (qh : ℂ) (l : ℕ) :
    column ana P' z top Lx' Ly' qh l = column ana P z top Lx Ly qh l := by
  have hT1 : ∀ i, Tcoef RC P' Lx' Ly' i = ((1 : ℝ) : ℂ) / ((1 : ℝ) : ℂ) * Tcoef RC P Lx Ly i := fun i => by
    rw [hT, Complex.ofReal_one, div_one, one_mul]
  have hK1 : ∀ i, P'.Kz i = 1 * 1 * P.Kz i := fun i => by rw [hK, one_mul, one_mul]
  have h := column_similarity (P := P) (Lx := Lx) (Ly := Ly) (μ := 1) (γ := 1) one_ne_zero (hT := hT1) (hK := hK1)
    (fun i => (one_mul (z i)).symm) one_pos ana top qh l
  rwa [Complex.ofReal_one, div_one] at h

/-- a column is homogeneous in the spectral surface flux (no condition on the shooting denominator) -/
theorem column_smul (ana : Bool) (P : Profiles ℝ) (z : ℕ → ℝ) (top : ℕ) (Lx Ly : ℝ) (c qh : ℂ) (l : ℕ) :
    column ana P z top Lx Ly (c * qh) l = c • column ana P z top Lx Ly qh l := by
  have hN := C04.columnNum_linear P z top Lx Ly c 0 qh 0 l
  have hA := C04.columnAna_linear P z top Lx Ly c 0 qh 0 l
  simp only [mul_zero, zero_mul, add_zero] at hN hA
  cases ana
  · exact hN
  · exact hA

/-- what a slot sees.  Slot `(a', b')` of `r'` against slot `(a, b)` of `r`: same solver branch, node count and mean-mode
status; heights × `γ`, `Kz` × `μ γ`, background / `μ`, every `T_i` × `μ / γ`; source coefficient × `χ` (`χ = 1` in the mean mode,
where the background enters additively).  Then the coefficient pair is `χ` times that of `r`, its concentration divided by `μ`. -/
theorem modeCoef_similarity {r r' : SolveReq ℝ} {g g' : Geom ℝ} {S S' : ℕ → ℕ → ℂ} {a b a' b' : ℕ} {μ γ : ℝ} {χ : ℂ}
    (hμ : μ ≠ 0) (hγ : 0 < γ) (han : r'.analytic = r.analytic) (hnz : r'.nz = r.nz) (hz : ∀ i, r'.z i = γ * r.z i)
    (hK : ∀ i, r'.P.Kz i = μ * γ * r.P.Kz i) (hbg : r'.bg = r.bg / μ)
    (h0 : (a' = 0 ∧ b' = 0) ↔ (a = 0 ∧ b = 0))
    (hT : ∀ i, Tcoef RC r'.P (waveX RC g' b') (waveY RC g' a') i
      = (μ : ℂ) / γ * Tcoef RC r.P (waveX RC g b) (waveY RC g a) i)
    (hS : S' a' b' = χ * S a b) (hχ : a = 0 ∧ b = 0 → χ = 1) (l : ℕ) :
    modeCoef RC r' g' S' l a' b' = χ • ((modeCoef RC r g S l a b).1 / (μ : ℂ), (modeCoef RC r g S l a b).2) := by
  rw [modeCoef_RC, modeCoef_RC, han, hnz, hS]
  by_cases hab : a = 0 ∧ b = 0
  · rw [if_pos hab, if_pos (h0.mpr hab), hχ hab, one_mul, one_smul, hbg, Complex.ofReal_div,
      meanMode_similarity hμ hK hz hγ.ne']
  · rw [if_neg hab, if_neg (mt h0.mp hab), column_smul, column_similarity hμ hT hK hz hγ]

/-- … without rescaling: two slots that see the same data carry the same coefficient pair, up to the factor of the source -/
theorem modeCoef_congr {r r' : SolveReq ℝ} {g g' : Geom ℝ} {S S' : ℕ → ℕ → ℂ} {a b a' b' : ℕ} {χ : ℂ}
    (han : r'.analytic = r.analytic) (hnz : r'.nz = r.nz) (hz : r'.z = r.z) (hK : r'.P.Kz = r.P.Kz) (hbg : r'.bg = r.bg)
    (h0 : (a' = 0 ∧ b' = 0) ↔ (a = 0 ∧ b = 0))
    (hT : ∀ i, Tcoef RC r'.P (waveX RC g' b') (waveY RC g' a') i = Tcoef RC r.P (waveX RC g b) (waveY RC g a) i)
    (hS : S' a' b' = χ * S a b) (hχ : a = 0 ∧ b = 0 → χ = 1) (l : ℕ) :
    modeCoef RC r' g' S' l a' b' = χ • modeCoef RC r g S l a b := by
  have hz1 : ∀ i, r'.z i = 1 * r.z i := fun i => by rw [hz, one_mul]
  have hK1 : ∀ i, r'.P.Kz i = 1 * 1 * r.P.Kz i := fun i => by rw [hK, one_mul, one_mul]
  have hbg1 : r'.bg = r.bg / (1 : ℝ) := by rw [hbg, div_one]
  have hT1 : ∀ i, Tcoef RC r'.P (waveX RC g' b') (waveY RC g' a') i
      = ((1 : ℝ) : ℂ) / ((1 : ℝ) : ℂ) * Tcoef RC r.P (waveX RC g b) (waveY RC g a) i := fun i => by
    rw [hT, Complex.ofReal_one, div_one, one_mul]
  have h := modeCoef_similarity (g := g) (g' := g') (μ := 1) (γ := 1) one_ne_zero one_pos han hnz (hz := hz1) (hK := hK1)
    (hbg := hbg1) (h0 := h0) (hT := hT1) (hS := hS) (hχ := hχ) l
  rwa [Complex.ofReal_one, div_one] at h

end BLDFM.Spec
