/-
  The trigonometric sum of `solver_repr` as a function on ℤ × ℤ, and how it answers to an operation on the
  coefficient table: it is linear in the table, multiplication by a character translates it, composition with the
  partner involution (slot of opposite signed frequency) reflects it, transposition exchanges the axes.  Every
  field-level symmetry of the solver is one of these applied to a relation between two coefficient tables.  The table
  may take values in any ℂ-module, so that the pair (concentration, flux) is carried through in one piece.  The same
  for the forward sum `fwd`, which is what the truncated source spectrum holds at a slot.  `fieldAt` is the pair
  (concentration, flux) the model returns at a cell; `fieldAt_trig` writes it as such a sum, and `fieldsAt_trig` says
  the same of the pair written out, the shape in which `Prod.mk.inj` leaves a goal about the two components.
-/
import Proofs.Lemmas.Repr

open BLDFM BLDFM.Spec BLDFM.Index

namespace BLDFM.Spec

variable {V : Type*} [AddCommMonoid V] [Module ℂ V]

/-- `Σ_{a<nly} Σ_{b<nlx} ω_Nx^{s f(b) x} ω_Ny^{s f(a) y} • T a b` at the integer position `(y, x)` -/
noncomputable def trig (s : ℤ) (Ny Nx nly nlx : ℕ) (T : ℕ → ℕ → V) (y x : ℤ) : V :=
  ∑ a ∈ Finset.range nly, ∑ b ∈ Finset.range nlx,
    (rootPow Nx (s * sfreq nlx b * x) * rootPow Ny (s * sfreq nly a * y)) • T a b

/-- the slot of opposite signed frequency (its own partner for the zero slot; the Nyquist slot of an even
count has none) -/
def partner (nl b : ℕ) : ℕ := (nl - b) % nl

variable {s : ℤ} {Ny Nx nly nlx : ℕ} {T T' : ℕ → ℕ → V}

theorem trig_congr (h : ∀ a < nly, ∀ b < nlx, T' a b = T a b) (y x : ℤ) :
    trig s Ny Nx nly nlx T' y x = trig s Ny Nx nly nlx T y x := by
  unfold trig
  refine Finset.sum_congr rfl fun a ha => Finset.sum_congr rfl fun b hb => ?_
  rw [h a (Finset.mem_range.mp ha) b (Finset.mem_range.mp hb)]

theorem trig_add (T T' : ℕ → ℕ → V) (y x : ℤ) :
    trig s Ny Nx nly nlx (fun a b => T a b + T' a b) y x = trig s Ny Nx nly nlx T y x + trig s Ny Nx nly nlx T' y x := by
  simp only [trig, smul_add, Finset.sum_add_distrib]

theorem trig_smul (c : ℂ) (T : ℕ → ℕ → V) (y x : ℤ) :
    trig s Ny Nx nly nlx (fun a b => c • T a b) y x = c • trig s Ny Nx nly nlx T y x := by
  simp only [trig, Finset.smul_sum, smul_comm c]

omit [Module ℂ V] in
theorem sum_single_slot {a₀ b₀ : ℕ} (ha₀ : a₀ < nly) (hb₀ : b₀ < nlx) (f : ℕ → ℕ → V)
    (h : ∀ a < nly, ∀ b < nlx, ¬(a = a₀ ∧ b = b₀) → f a b = 0) :
    ∑ a ∈ Finset.range nly, ∑ b ∈ Finset.range nlx, f a b = f a₀ b₀ := by
  rw [Finset.sum_eq_single_of_mem a₀ (Finset.mem_range.mpr ha₀), Finset.sum_eq_single_of_mem b₀ (Finset.mem_range.mpr hb₀)]
  · intro b hb hb0
    exact h a₀ ha₀ b (Finset.mem_range.mp hb) fun h0 => hb0 h0.2
  · intro a ha ha0
    exact Finset.sum_eq_zero fun b hb => h a (Finset.mem_range.mp ha) b (Finset.mem_range.mp hb) fun h0 => ha0 h0.1

theorem trig_fst_div (c : ℂ) (T : ℕ → ℕ → ℂ × ℂ) (y x : ℤ) :
    trig s Ny Nx nly nlx (fun a b => ((T a b).1 / c, (T a b).2)) y x
      = ((trig s Ny Nx nly nlx T y x).1 / c, (trig s Ny Nx nly nlx T y x).2) := by
  unfold trig
  refine Prod.ext ?_ ?_
  · simp only [Prod.fst_sum, Prod.smul_fst, smul_eq_mul, Finset.sum_div, mul_div_assoc]
  · simp only [Prod.snd_sum, Prod.smul_snd]

theorem trig_dc (hly : 0 < nly) (hlx : 0 < nlx) (v : V) (y x : ℤ) :
    trig s Ny Nx nly nlx (fun a b => if a = 0 ∧ b = 0 then v else 0) y x = v := by
  rw [trig, sum_single_slot hly hlx]
  · rw [if_pos ⟨rfl, rfl⟩, sfreq_zero hly, sfreq_zero hlx]
    simp only [mul_zero, zero_mul, rootPow_zero, mul_one, one_smul]
  · intro a _ b _ h
    rw [if_neg h, smul_zero]

theorem trig_periodic (hNy : 0 < Ny) (hNx : 0 < Nx) {y x y' x' : ℤ} (ty tx : ℤ) (hy : y' = y + Ny * ty) (hx : x' = x + Nx * tx) :
    trig s Ny Nx nly nlx T y' x' = trig s Ny Nx nly nlx T y x := by
  unfold trig
  refine Finset.sum_congr rfl fun a _ => Finset.sum_congr rfl fun b _ => ?_
  rw [hy, hx, mul_add, mul_add, mul_left_comm _ (Nx : ℤ), mul_left_comm _ (Ny : ℤ), rootPow_add_mul _ hNx,
    rootPow_add_mul _ hNy]

/-- translation: multiplying slot `(a, b)` by `ω_x^{-s f(b) cx} ω_y^{-s f(a) cy}` moves the sum by `(cy, cx)` -/
theorem trig_translate (cy cx : ℤ)
    (h : ∀ a < nly, ∀ b < nlx, T' a b =
      (rootPow Nx (-(s * sfreq nlx b * cx)) * rootPow Ny (-(s * sfreq nly a * cy))) • T a b) (y x : ℤ) :
    trig s Ny Nx nly nlx T' y x = trig s Ny Nx nly nlx T (y - cy) (x - cx) := by
  unfold trig
  refine Finset.sum_congr rfl fun a ha => Finset.sum_congr rfl fun b hb => ?_
  rw [h a (Finset.mem_range.mp ha) b (Finset.mem_range.mp hb), smul_smul, mul_sub, mul_sub, sub_eq_neg_add,
    sub_eq_neg_add, rootPow_add, rootPow_add]
  congr 1
  ring

theorem trig_transpose (y x : ℤ) :
    trig s Nx Ny nlx nly (fun b a => T a b) x y = trig s Ny Nx nly nlx T y x := by
  unfold trig
  rw [Finset.sum_comm]
  refine Finset.sum_congr rfl fun a _ => Finset.sum_congr rfl fun b _ => ?_
  rw [mul_comm]

theorem partner_lt {nl b : ℕ} (hb : b < nl) : partner nl b < nl := Nat.mod_lt _ (by omega)

theorem partner_partner {nl b : ℕ} (hb : b < nl) : partner nl (partner nl b) = b := by
  unfold partner
  rcases Nat.eq_zero_or_pos b with rfl | hpos
  · simp
  · rw [Nat.mod_eq_of_lt (show nl - b < nl by omega), Nat.mod_eq_of_lt (show nl - (nl - b) < nl by omega)]
    omega

theorem sfreq_of_partner {nl b : ℕ} (hb : b < nl) (hny : 2 * b ≠ nl) : sfreq nl (partner nl b) = -sfreq nl b := by
  unfold sfreq partner
  rcases Nat.eq_zero_or_pos b with rfl | hpos
  · simp only [Nat.sub_zero, Nat.mod_self]
    rw [if_pos (by omega)]
    simp
  · rw [Nat.mod_eq_of_lt (by omega)]
    by_cases h1 : b < (nl + 1) / 2
    · rw [if_pos h1, if_neg (by omega)]
      omega
    · rw [if_neg h1, if_pos (by omega)]
      omega

theorem sfreq_partner_of_odd {nl b : ℕ} (hodd : nl % 2 = 1) (hb : b < nl) : sfreq nl (partner nl b) = -sfreq nl b :=
  sfreq_of_partner hb (by omega)

omit [Module ℂ V] in
theorem sum_partner (nl : ℕ) (G : ℕ → V) :
    ∑ b ∈ Finset.range nl, G (partner nl b) = ∑ b ∈ Finset.range nl, G b :=
  Finset.sum_nbij' (partner nl) (partner nl)
    (fun _ hb => Finset.mem_range.mpr (partner_lt (Finset.mem_range.mp hb)))
    (fun _ hb => Finset.mem_range.mpr (partner_lt (Finset.mem_range.mp hb)))
    (fun _ hb => partner_partner (Finset.mem_range.mp hb))
    (fun _ hb => partner_partner (Finset.mem_range.mp hb)) (fun _ _ => rfl)

/-- reflection in `x`: when every x-slot has a partner (odd count), taking slot `(a, b)` from the partner `(a, b̄)`
times `ω_x^{-s f(b) c}` reflects the sum about `c / 2`: `x ↦ c − x` -/
theorem trig_reflectX (hodd : nlx % 2 = 1) (c : ℤ)
    (h : ∀ a < nly, ∀ b < nlx, T' a b = rootPow Nx (-(s * sfreq nlx b * c)) • T a (partner nlx b)) (y x : ℤ) :
    trig s Ny Nx nly nlx T' y x = trig s Ny Nx nly nlx T y (c - x) := by
  unfold trig
  refine Finset.sum_congr rfl fun a ha => ?_
  refine Eq.trans ?_ (sum_partner nlx _)
  refine Finset.sum_congr rfl fun b hb => ?_
  have hb' := Finset.mem_range.mp hb
  rw [h a (Finset.mem_range.mp ha) b hb', smul_smul, sfreq_of_partner hb' (by omega),
    show s * -sfreq nlx b * (c - x) = -(s * sfreq nlx b * c) + s * sfreq nlx b * x by ring, rootPow_add]
  congr 1
  ring

/-- mirror image on the grid: the reflection `x ↦ −1 − x` is `I ↦ Nx − 1 − I` modulo `Nx` -/
theorem trig_mirrorX (hNy : 0 < Ny) (hNx : 0 < Nx) (hodd : nlx % 2 = 1)
    (h : ∀ a < nly, ∀ b < nlx, T' a b = rootPow Nx (s * sfreq nlx b) • T a (partner nlx b)) (J : ℤ) {I : ℕ} (hI : I < Nx) :
    trig s Ny Nx nly nlx T' J I = trig s Ny Nx nly nlx T J ((Nx - 1 - I : ℕ) : ℤ) := by
  have hx : ((Nx - 1 - I : ℕ) : ℤ) = -1 - I + Nx * 1 := by omega
  have h' : ∀ a < nly, ∀ b < nlx, T' a b = rootPow Nx (-(s * sfreq nlx b * -1)) • T a (partner nlx b) := fun a ha b hb => by
    rw [h a ha b hb, mul_neg_one, neg_neg]
  exact (trig_reflectX hodd (-1) h' J I).trans (trig_periodic hNy hNx 0 1 (by ring) hx).symm

theorem trig_reflectY (hodd : nly % 2 = 1) (c : ℤ)
    (h : ∀ a < nly, ∀ b < nlx, T' a b = rootPow Ny (-(s * sfreq nly a * c)) • T (partner nly a) b) (y x : ℤ) :
    trig s Ny Nx nly nlx T' y x = trig s Ny Nx nly nlx T (c - y) x := by
  rw [← trig_transpose, ← trig_transpose (T := T)]
  exact trig_reflectX hodd c (fun b hb a ha => h a ha b hb) x y

theorem trig_reflect (hoddy : nly % 2 = 1) (hoddx : nlx % 2 = 1) (cy cx : ℤ)
    (h : ∀ a < nly, ∀ b < nlx, T' a b =
      (rootPow Nx (-(s * sfreq nlx b * cx)) * rootPow Ny (-(s * sfreq nly a * cy))) • T (partner nly a) (partner nlx b))
    (y x : ℤ) :
    trig s Ny Nx nly nlx T' y x = trig s Ny Nx nly nlx T (cy - y) (cx - x) :=
  (trig_reflectX hoddx cx (T := fun a b => rootPow Ny (-(s * sfreq nly a * cy)) • T (partner nly a) b)
    (fun a ha b hb => by rw [h a ha b hb, mul_smul]) y x).trans (trig_reflectY hoddy cy (fun _ _ _ _ => rfl) y (cx - x))

theorem fwd_congr {N : ℕ} {ρ ρ' : ℕ → ℂ} (h : ∀ I < N, ρ' I = ρ I) (m : ℤ) : fwd N ρ' m = fwd N ρ m :=
  Finset.sum_congr rfl fun I hI => by rw [h I (Finset.mem_range.mp hI)]

theorem fwd_const_mul (N : ℕ) (c : ℂ) (ρ : ℕ → ℂ) (m : ℤ) : fwd N (fun I => c * ρ I) m = c * fwd N ρ m := by
  unfold fwd
  rw [Finset.mul_sum]
  exact Finset.sum_congr rfl fun I _ => mul_assoc _ _ _

theorem fwd_add (N : ℕ) (ρ ρ' : ℕ → ℂ) (m : ℤ) : fwd N (fun I => ρ I + ρ' I) m = fwd N ρ m + fwd N ρ' m := by
  simp only [fwd, add_mul, Finset.sum_add_distrib]

theorem fwd_reflect {N : ℕ} (hN : 0 < N) (ρ : ℕ → ℂ) (m : ℤ) :
    fwd N (fun I => ρ (N - 1 - I)) m = rootPow N m * fwd N ρ (-m) := by
  unfold fwd
  rw [← Finset.sum_range_reflect, Finset.mul_sum]
  refine Finset.sum_congr rfl fun I hI => ?_
  have hI' := Finset.mem_range.mp hI
  have hc : ((N - 1 - I : ℕ) : ℤ) = (N : ℤ) - 1 - I := by omega
  have hexp : -(m * ((N : ℤ) - 1 - I)) = m + -(-m * I) + N * (-m) := by ring
  show ρ (N - 1 - (N - 1 - I)) * _ = _
  rw [show N - 1 - (N - 1 - I) = I by omega, mul_left_comm, ← rootPow_add, hc, hexp, rootPow_add_mul _ hN]

theorem _root_.BLDFM.C06.sum_shift_periodic (N : ℕ) (f : ℤ → ℂ) (hper : ∀ m, f (m + N) = f m) (c : ℤ) :
    ∑ I ∈ Finset.range N, f ((I : ℤ) - c) = ∑ I ∈ Finset.range N, f I := by
  -- one cell: the term that leaves on one side enters on the other
  have step : ∀ c : ℤ, ∑ I ∈ Finset.range N, f ((I : ℤ) - (c + 1)) = ∑ I ∈ Finset.range N, f ((I : ℤ) - c) := by
    intro c
    have e := Finset.sum_range_succ' (fun I : ℕ => f ((I : ℤ) - (c + 1))) N
    have hlast : ((N : ℕ) : ℤ) - (c + 1) = ((0 : ℕ) : ℤ) - (c + 1) + N := by
      push_cast
      ring
    rw [Finset.sum_range_succ, hlast, hper] at e
    rw [add_right_cancel e]
    exact Finset.sum_congr rfl fun I _ => congrArg f (by push_cast; ring)
  induction c using Int.induction_on with
  | zero => simp
  | succ k ih => rw [step, ih]
  | pred k ih => rw [← ih, ← step (-(k : ℤ) - 1), sub_add_cancel]

/-- translation of the row (DFT shift theorem): cyclically shifting a row by `c` cells multiplies its transform at
frequency `m` by `ω^{-m c}` -/
theorem fwd_roll {N : ℕ} (hN : 0 < N) (ρ : ℕ → ℂ) (m c : ℤ) :
    fwd N (fun I => ρ ((((I : ℤ) - c) % N).toNat)) m = rootPow N (-(m * c)) * fwd N ρ m := by
  -- the summand as a function of the source position `t = I − c`: it has period `N`
  let F : ℤ → ℂ := fun t => ρ ((t % N).toNat) * rootPow N (-(m * (t + c)))
  have hper : ∀ t, F (t + N) = F t := fun t => by
    show ρ (((t + N) % N).toNat) * rootPow N (-(m * (t + N + c))) = ρ ((t % N).toNat) * rootPow N (-(m * (t + c)))
    rw [Int.add_emod_right, show -(m * (t + (N : ℤ) + c)) = -(m * (t + c)) + N * (-m) by ring, rootPow_add_mul _ hN]
  have hL : ∀ I : ℕ, ρ ((((I : ℤ) - c) % N).toNat) * rootPow N (-(m * I)) = F ((I : ℤ) - c) := fun I => by
    show _ = ρ _ * rootPow N (-(m * ((I : ℤ) - c + c)))
    rw [sub_add_cancel]
  have hR : ∀ I < N, F I = rootPow N (-(m * c)) * (ρ I * rootPow N (-(m * I))) := fun I hI => by
    show ρ (((I : ℤ) % N).toNat) * rootPow N (-(m * ((I : ℤ) + c))) = _
    rw [Int.emod_eq_of_lt (by omega) (by exact_mod_cast hI), Int.toNat_natCast,
      show -(m * ((I : ℤ) + c)) = -(m * c) + -(m * I) by ring, rootPow_add, mul_left_comm]
  unfold fwd
  simp only [hL]
  rw [C06.sum_shift_periodic N F hper c, Finset.mul_sum]
  exact Finset.sum_congr rfl fun I hI => hR I (Finset.mem_range.mp hI)

theorem fwd_fwd_comm (Ny Nx : ℕ) (ρ : ℕ → ℕ → ℂ) (my mx : ℤ) :
    fwd Nx (fun I => fwd Ny (fun J => ρ J I) my) mx = fwd Ny (fun J => fwd Nx (ρ J) mx) my := by
  unfold fwd
  simp only [Finset.sum_mul]
  rw [Finset.sum_comm]
  refine Finset.sum_congr rfl fun J _ => Finset.sum_congr rfl fun I _ => ?_
  ring

/-- the pair (concentration, flux) of the padded-domain field of node `l` at cell `(J, I)` -/
noncomputable def fieldAt (req : SolveReq ℝ) (g : Geom ℝ) (S : ℕ → ℕ → ℂ) (l J I : ℕ) : ℂ × ℂ :=
  ((fieldsAt RC req g S l).1.get J I, (fieldsAt RC req g S l).2.get J I)

@[simp] theorem fieldAt_fst (req : SolveReq ℝ) (g : Geom ℝ) (S : ℕ → ℕ → ℂ) (l J I : ℕ) :
    (fieldAt req g S l J I).1 = (fieldsAt RC req g S l).1.get J I := rfl

@[simp] theorem fieldAt_snd (req : SolveReq ℝ) (g : Geom ℝ) (S : ℕ → ℕ → ℂ) (l J I : ℕ) :
    (fieldAt req g S l J I).2 = (fieldsAt RC req g S l).2.get J I := rfl

/-- the pair of spectral coefficients of slot `(a, b)` with the shift applied: what `fieldsAt` transforms -/
noncomputable def coefTab (req : SolveReq ℝ) (g : Geom ℝ) (S : ℕ → ℕ → ℂ) (l a b : ℕ) : ℂ × ℂ :=
  shiftFactor RC req g a b • modeCoef RC req g S l a b

/-- exponent sign of the back-transform: `+` in dispersion mode, `−` in footprint mode -/
def sgnZ (fp : Bool) : ℤ := if fp then -1 else 1

theorem sgnZ_true : sgnZ true = -1 := rfl
theorem sgnZ_false : sgnZ false = 1 := rfl

theorem signPair_sgnZ (fp : Bool) : SignPair (sgnZ fp) (if fp then (-1.0 : ℝ) else 1.0) := by
  cases fp
  · exact Or.inl ⟨rfl, rfl⟩
  · exact Or.inr ⟨rfl, rfl⟩

/-- the two padded-domain fields of `fieldsAt` are the transforms of the un-truncated, shifted coefficient tables -/
theorem _root_.BLDFM.C03.fieldsAt_eq (req : SolveReq ℝ) (g : Geom ℝ) (S : ℕ → ℕ → ℂ) (l : ℕ) :
    (fieldsAt RC req g S l).1 = dft2 RC (if req.footprint then (-1.0 : ℝ) else 1.0) g.nye g.nxe
        (untrunc g (fun a b => (modeCoef RC req g S l a b).1 * shiftFactor RC req g a b)) ∧
    (fieldsAt RC req g S l).2 = dft2 RC (if req.footprint then (-1.0 : ℝ) else 1.0) g.nye g.nxe
        (untrunc g (fun a b => (modeCoef RC req g S l a b).2 * shiftFactor RC req g a b)) := by
  simp only [fieldsAt, Tab2.get_tab_eq, Tab2.get_tab, and_self]

/-- spectral representation of the solver's two padded-domain fields, as one pair-valued trigonometric sum -/
theorem fieldsAt_trig (req : SolveReq ℝ) (g : Geom ℝ) (hg : GeomOK g) (S : ℕ → ℕ → ℂ) (l J I : ℕ) :
    ((fieldsAt RC req g S l).1.get J I, (fieldsAt RC req g S l).2.get J I)
      = trig (sgnZ req.footprint) g.nye g.nxe g.nly g.nlx (coefTab req g S l) J I := by
  have hs := signPair_sgnZ req.footprint
  rw [(C03.fieldsAt_eq req g S l).1, (C03.fieldsAt_eq req g S l).2, solver_repr _ _ hs g hg, solver_repr _ _ hs g hg]
  unfold trig coefTab
  refine Prod.ext ?_ ?_
  · simp only [Prod.fst_sum, Prod.smul_fst, smul_eq_mul]
    refine Finset.sum_congr rfl fun a _ => Finset.sum_congr rfl fun b _ => ?_
    ring
  · simp only [Prod.snd_sum, Prod.smul_snd, smul_eq_mul]
    refine Finset.sum_congr rfl fun a _ => Finset.sum_congr rfl fun b _ => ?_
    ring

theorem fieldAt_trig (req : SolveReq ℝ) (g : Geom ℝ) (hg : GeomOK g) (S : ℕ → ℕ → ℂ) (l J I : ℕ) :
    fieldAt req g S l J I = trig (sgnZ req.footprint) g.nye g.nxe g.nly g.nlx (coefTab req g S l) J I :=
  fieldsAt_trig req g hg S l J I

theorem fieldsAt_congr {r r' : SolveReq ℝ} {g g' : Geom ℝ} {S S' : ℕ → ℕ → ℂ} {l : ℕ} (hfp : r'.footprint = r.footprint)
    (hNy : g'.nye = g.nye) (hNx : g'.nxe = g.nxe) (hly : g'.nly = g.nly) (hlx : g'.nlx = g.nlx)
    (hdy : g'.dly = g.dly) (hdx : g'.dlx = g.dlx)
    (hc : ∀ a b, modeCoef RC r' g' S' l a b = modeCoef RC r g S l a b)
    (hsh : ∀ a b, shiftFactor RC r' g' a b = shiftFactor RC r g a b) :
    fieldsAt RC r' g' S' l = fieldsAt RC r g S l := by
  have hun : (untrunc g' : (ℕ → ℕ → ℂ) → ℕ → ℕ → ℂ) = untrunc g := by
    unfold untrunc
    rw [hNy, hNx, hly, hlx, hdy, hdx]
  unfold fieldsAt
  simp only [hc, hsh, hun, hNy, hNx, hly, hlx, hfp]

end BLDFM.Spec
