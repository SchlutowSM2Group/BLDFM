/-
  Mathlib's tactic files for `ring`, `norm_num`, `field_simp`, `linarith`, `positivity` as one import,
  and `bridge_ring`, the closer of the arithmetic bridges.
-/
import Mathlib.Tactic.Ring
import Mathlib.Tactic.NormNum
import Mathlib.Tactic.FieldSimp
import Mathlib.Tactic.Linarith
import Mathlib.Tactic.Positivity

/-- close an algebraic identity between a generated kernel and its model:
casts pushed inward, scientific literals evaluated (`ring` alone mis-handles
`OfScientific` literals at ℂ), then commutative-ring normalisation. -/
macro "bridge_ring" : tactic =>
  `(tactic| (push_cast; (try norm_num); (try ring_nf); (try ring); done))
