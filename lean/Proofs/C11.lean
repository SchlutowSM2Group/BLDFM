/-
  C11 — output keeps the input grid for any size parity, halo and mode count;
  truncation / un-truncation keep every retained component at its own frequency for
  even and odd padded sizes; clamp rule; odd mode counts rejected.  `geom_congr`, `solveOk_congr`: the fields of
  a request through which the geometry and the returned result depend on it.
-/
import Proofs.Lemmas.Repr

open BLDFM BLDFM.Spec BLDFM.Index

namespace BLDFM.C11

/-- the returned fields have exactly the shape of the surface-flux field, one slice
per requested level, with coordinates `x = i·dx`, `y = j·dy` -/
theorem out_shape (req : SolveReq ℝ) :
    (solveOk RC req).ny = req.ny ∧ (solveOk RC req).nx = req.nx ∧
    (solveOk RC req).nlv = req.levels.length ∧
    (∀ i, (solveOk RC req).X i = (i : ℝ) * (req.xmx / (req.nx : ℝ))) ∧
    (∀ j, (solveOk RC req).Y j = (j : ℝ) * (req.ymx / (req.ny : ℝ))) :=
  ⟨rfl, rfl, List.size_toArray, fun _ => rfl, fun _ => rfl⟩

theorem solveOk_congr {r r' : SolveReq ℝ} (hny : r'.ny = r.ny) (hnx : r'.nx = r.nx) (hlv : r'.levels = r.levels)
    (hz : r'.z = r.z) (hg : geom RC r' = geom RC r)
    (hF : ∀ l, fieldsAt RC r' (geom RC r) (srcSpectrum RC r' (geom RC r)).get l
      = fieldsAt RC r (geom RC r) (srcSpectrum RC r (geom RC r)).get l) :
    solveOk RC r' = solveOk RC r := by
  unfold solveOk
  simp only [hny, hnx, hlv, hz, hg, hF]

/-- registration: the value returned at `(j, i)` is the padded-domain field at
`(j + py, i + px)` (the crop starts at the pad widths) -/
theorem registered (req : SolveReq ℝ) (k j i : ℕ) (hk : k < req.levels.length) :
    let g := geom RC req
    let f := fieldsAt RC req g (srcSpectrum RC req g).get (req.levels[k])
    (solveOk RC req).conc k j i = (f.1.get (j + g.py) (i + g.px)).re ∧
    (solveOk RC req).flx k j i = (f.2.get (j + g.py) (i + g.px)).re := by
  simp only [solveOk, Tab1.get_tab, getD_toArray _ k hk, RC, and_self]

/-- un-truncation puts slot `(a, b)` of the truncated spectrum at the full-spectrum
position of its signed frequency, for both parities of the padded sizes … -/
theorem untrunc_hit (g : Geom ℝ) (T : ℕ → ℕ → ℂ) (a b : ℕ)
    (hy : Admissible g.nye g.nly) (hx : Admissible g.nxe g.nlx)
    (hdy : g.dly = (g.nye - g.nly) / 2) (hdx : g.dlx = (g.nxe - g.nlx) / 2)
    (ha : a < g.nly) (hb : b < g.nlx) :
    untrunc g T (slotPos g.nye g.nly a) (slotPos g.nxe g.nlx b) = T a b := by
  obtain ⟨⟨wy1, wy2⟩, ey⟩ := untrunc_index_hit g.nye g.nly a hy ha
  obtain ⟨⟨wx1, wx2⟩, ex⟩ := untrunc_index_hit g.nxe g.nlx b hx hb
  unfold untrunc
  simp only [hdy, hdx]
  rw [if_pos ⟨wy1, wy2, wx1, wx2⟩, ey, ex]

/-- … and every other in-range entry of the full spectrum is zero -/
theorem untrunc_miss (g : Geom ℝ) (T : ℕ → ℕ → ℂ) (A B : ℕ)
    (hy : Admissible g.nye g.nly) (hx : Admissible g.nxe g.nlx)
    (hdy : g.dly = (g.nye - g.nly) / 2) (hdx : g.dlx = (g.nxe - g.nlx) / 2)
    (hA : A < g.nye) (hB : B < g.nxe)
    (hno : ¬∃ a b, a < g.nly ∧ b < g.nlx ∧ slotPos g.nye g.nly a = A ∧ slotPos g.nxe g.nlx b = B) :
    untrunc g T A B = 0 := by
  unfold untrunc
  simp only [hdy, hdx]
  split
  · rename_i h
    exfalso
    obtain ⟨a, ha, hsa, _⟩ := untrunc_index_window g.nye g.nly A hy hA ⟨h.1, h.2.1⟩
    obtain ⟨b, hb, hsb, _⟩ := untrunc_index_window g.nxe g.nlx B hx hB ⟨h.2.2.1, h.2.2.2⟩
    exact hno ⟨a, b, ha, hb, hsa, hsb⟩
  · norm_num

/-- truncation reads slot `(a, b)` from the full-spectrum position of its signed frequency -/
theorem trunc_hit (g : Geom ℝ) (a b : ℕ)
    (hy : Admissible g.nye g.nly) (hx : Admissible g.nxe g.nlx)
    (hdy : g.dly = (g.nye - g.nly) / 2) (hdx : g.dlx = (g.nxe - g.nlx) / 2)
    (ha : a < g.nly) (hb : b < g.nlx) :
    truncSrc g.nye g.nly g.dly a = slotPos g.nye g.nly a ∧
    truncSrc g.nxe g.nlx g.dlx b = slotPos g.nxe g.nlx b := by
  rw [hdy, hdx]
  exact ⟨trunc_index _ _ _ hy ha, trunc_index _ _ _ hx hb⟩

theorem geom_nxe (req : SolveReq ℝ) : (geom RC req).nxe = req.nx + 2 * (geom RC req).px := rfl
theorem geom_nye (req : SolveReq ℝ) : (geom RC req).nye = req.ny + 2 * (geom RC req).py := rfl
theorem geom_nl (req : SolveReq ℝ) :
    (geom RC req).nlx = (clampModes req.nlx req.nly (geom RC req).nxe (geom RC req).nye).1 ∧
    (geom RC req).nly = (clampModes req.nlx req.nly (geom RC req).nxe (geom RC req).nye).2 := ⟨rfl, rfl⟩
theorem geom_dl (req : SolveReq ℝ) :
    (geom RC req).dlx = ((geom RC req).nxe - (geom RC req).nlx) / 2 ∧
    (geom RC req).dly = ((geom RC req).nye - (geom RC req).nly) / 2 := ⟨rfl, rfl⟩

theorem geom_no_halo {req : SolveReq ℝ} (h : req.halo = some 0) :
    geom RC req =
      { dx := req.xmx / req.nx, dy := req.ymx / req.ny, halo := 0, px := 0, py := 0, nxe := req.nx, nye := req.ny,
        nlx := (clampModes req.nlx req.nly req.nx req.ny).1, nly := (clampModes req.nlx req.nly req.nx req.ny).2,
        dlx := (req.nx - (clampModes req.nlx req.nly req.nx req.ny).1) / 2,
        dly := (req.ny - (clampModes req.nlx req.nly req.nx req.ny).2) / 2 } := by
  simp [geom, h, RC]

theorem geom_congr {r r' : SolveReq ℝ} (hnx : r'.nx = r.nx) (hny : r'.ny = r.ny) (hxmx : r'.xmx = r.xmx)
    (hymx : r'.ymx = r.ymx) (hhalo : r'.halo = r.halo)
    (hc : clampModes r'.nlx r'.nly (geom RC r).nxe (geom RC r).nye
        = clampModes r.nlx r.nly (geom RC r).nxe (geom RC r).nye) :
    geom RC r' = geom RC r := by
  unfold geom at hc ⊢
  simp only [hnx, hny, hxmx, hymx, hhalo, hc]

/-- the geometry computed by the model satisfies the hypotheses above for every
request that passes the even-modes check (any parity of `nx`, `ny`, any halo) -/
theorem geom_admissible (req : SolveReq ℝ) (hnx : 0 < req.nx) (hny : 0 < req.ny)
    (hex : req.nlx % 2 = 0) (hey : req.nly % 2 = 0) (hpx : 0 < req.nlx) (hpy : 0 < req.nly) :
    let g := geom RC req
    Admissible g.nye g.nly ∧ Admissible g.nxe g.nlx ∧
      g.dly = (g.nye - g.nly) / 2 ∧ g.dlx = (g.nxe - g.nlx) / 2 := by
  intro g
  have h : GeomOK g := GeomOK.of_request req hnx hny hex hey hpx hpy
  exact ⟨h.ady, h.adx, h.hdy, h.hdx⟩

/-- clamp: when either mode count exceeds its padded size, both are reset to the padded
sizes (as coded: "Setting both equal") … -/
theorem clamp_taken (req : SolveReq ℝ)
    (hover : req.nlx > (geom RC req).nxe ∨ req.nly > (geom RC req).nye) :
    (geom RC req).nlx = (geom RC req).nxe ∧ (geom RC req).nly = (geom RC req).nye :=
  ⟨(geom_nl req).1.trans (congrArg Prod.fst (clampModes_of_gt hover)),
    (geom_nl req).2.trans (congrArg Prod.snd (clampModes_of_gt hover))⟩

/-- … so the request equals the one with exactly as many modes as the padded grid holds -/
theorem clamp_equiv (req : SolveReq ℝ)
    (hover : req.nlx > (geom RC req).nxe ∨ req.nly > (geom RC req).nye) :
    geom RC { req with nlx := (geom RC req).nxe, nly := (geom RC req).nye } = geom RC req :=
  geom_congr rfl rfl rfl rfl rfl ((clampModes_of_le le_rfl le_rfl).trans (clampModes_of_gt hover).symm)

/-- a request within the padded size is left alone by the clamp -/
theorem no_clamp (req : SolveReq ℝ)
    (hin : req.nlx ≤ (geom RC req).nxe ∧ req.nly ≤ (geom RC req).nye) :
    (geom RC req).nlx = req.nlx ∧ (geom RC req).nly = req.nly :=
  ⟨(geom_nl req).1.trans (congrArg Prod.fst (clampModes_of_le hin.1 hin.2)),
    (geom_nl req).2.trans (congrArg Prod.snd (clampModes_of_le hin.1 hin.2))⟩

/-- odd mode counts are rejected with a ValueError before anything else -/
theorem odd_modes_rejected (req : SolveReq ℝ) (h : req.nlx % 2 = 1 ∨ req.nly % 2 = 1) :
    solve RC req = .error .valueError := by
  have h1 : req.nlx % 2 > 0 ∨ req.nly % 2 > 0 := by omega
  simp [solve, solveErr, h1]

/-! non-vacuity: odd padded size with an even mode count is admissible (`N = 5, nl = 2`, so `N − nl` is odd: the case in
which the Python code, slicing `[d : N − d]` instead of `[d : d + nl]`, returned a field of the wrong shape or shifted by
one cell — defect D4, DESIGN.md §5 and §9.6), and the slot positions are `f(0) = 0`, `f(1) = -1 ≡ 4` -/
example : Admissible 5 2 ∧ slotPos 5 2 0 = 0 ∧ slotPos 5 2 1 = 4 ∧ truncSrc 5 2 ((5 - 2) / 2) 1 = 4 := by
  refine ⟨⟨by norm_num, by norm_num, Or.inl rfl⟩, rfl, rfl, by decide⟩

end BLDFM.C11
