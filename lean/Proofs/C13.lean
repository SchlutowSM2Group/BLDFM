/-
  C13 — the config-driven single run is the documented wind → profiles → source → solver pipeline,
  for every configuration, tower, time index and optional user flux.
-/
import BLDFM.Interface
import Proofs.C16

open BLDFM

namespace BLDFM.C13

/-- the documented recipe, stated as a predicate on the call record (written independently of
`runSingle`): which number reaches which argument -/
structure IsPipeline (dom : DomainCfg) (sol : SolverCfg) (tower : TowerCfg) (step : MetStep)
    (flux : Option V) (cache : Option V) (c : SingleCalls) : Prop where
  wind : c.windSpeed = step.windSpeed ∧ c.windDir = step.windDir
  prof_grid : c.profN = dom.nz ∧ c.profZm = tower.zm ∧ c.profMol = step.mol ∧ c.profClosure = sol.closure
  /-- roughness-length forcing takes precedence; otherwise the friction velocity; never both -/
  forcing : (∀ z0, step.z0 = some z0 → c.profZ0 = some z0 ∧ c.profUstar = none) ∧
            (step.z0 = none → c.profZ0 = none ∧ c.profUstar = step.ustar)
  source : (∀ q, flux = some q → c.userFlux = some q ∧ c.idealSource = none) ∧
           (flux = none → c.userFlux = none ∧
              c.idealSource = some (dom.nx, dom.ny, dom.xmax, dom.ymax, sol.srcLoc, sol.shape))
  solver : c.solDomain = (dom.xmax, dom.ymax) ∧ c.solModes = dom.modes ∧ c.solMeasPt = (tower.x, tower.y) ∧
           c.solFootprint = sol.footprint ∧ c.solAnalytic = sol.analytic ∧ c.solHalo = dom.halo ∧
           c.solPrecision = sol.precision ∧ c.solCache = cache
  levels : c.solLevels = selectLevels dom
  labels : c.towerName = tower.name ∧ c.towerXY = (tower.x, tower.y) ∧ c.timestamp = step.timestamp ∧ c.params = step

theorem runSingle_of_getStep (dom : DomainCfg) (sol : SolverCfg) {met : MetCfg} (tower : TowerCfg) {i : ℕ}
    (flux cache : Option V) {step : MetStep} (hs : met.getStep i = .ok step) :
    ∃ c, runSingle dom sol met tower i flux cache = .ok c ∧ IsPipeline dom sol tower step flux cache c := by
  unfold runSingle
  rw [hs]
  refine ⟨_, rfl, {
    wind := ⟨rfl, rfl⟩
    prof_grid := ⟨rfl, rfl, rfl, rfl⟩
    forcing := ⟨?_, ?_⟩
    source := ⟨?_, ?_⟩
    solver := ⟨rfl, rfl, rfl, rfl, rfl, rfl, rfl, rfl⟩
    levels := rfl
    labels := ⟨rfl, rfl, rfl, rfl⟩ }⟩
  · intro z0 hz; simp [hz]
  · intro hz; simp [hz]
  · intro q hq; simp [hq]
  · intro hq; simp [hq]

/-- every successful single run is the documented pipeline applied to that step's parameters -/
theorem runSingle_is_pipeline (dom : DomainCfg) (sol : SolverCfg) (met : MetCfg) (tower : TowerCfg) (i : ℕ)
    (flux cache : Option V) (c : SingleCalls) (h : runSingle dom sol met tower i flux cache = .ok c) :
    ∃ step, met.getStep i = .ok step ∧ IsPipeline dom sol tower step flux cache c := by
  unfold runSingle at h
  obtain ⟨step, hs, -⟩ := C16.bind_eq_ok h
  obtain ⟨c', hc', hp⟩ := runSingle_of_getStep dom sol tower flux cache hs
  unfold runSingle at hc'
  cases h.symm.trans hc'
  exact ⟨step, hs, hp⟩

/-- … and a run exists for every valid time index of an accepted forcing -/
theorem runSingle_defined (dom : DomainCfg) (sol : SolverCfg) (met : MetCfg) (tower : TowerCfg) (n i : ℕ)
    (flux cache : Option V) (hn : C16.CommonLen met n) (hi : i < n)
    (hts : ∀ t, met.timestamps = some t → t.length = n) :
    ∃ c, runSingle dom sol met tower i flux cache = .ok c := by
  obtain ⟨s, hs, -⟩ := C16.getStep_spec met n i hn hi hts
  obtain ⟨c, hc, -⟩ := runSingle_of_getStep dom sol tower flux cache hs
  exact ⟨c, hc⟩

/-- level selection: a non-empty `output_levels` is used as given -/
theorem levels_explicit (dom : DomainCfg) (l : ℕ) (ls : List ℕ) (h : dom.outputLevels = some (l :: ls)) :
    selectLevels dom = .list (l :: ls) := by
  simp [selectLevels, h]

/-- otherwise `full_output` requests every node `0 … nz` -/
theorem levels_full (dom : DomainCfg) (h : dom.outputLevels = none ∨ dom.outputLevels = some [])
    (hf : dom.fullOutput = true) : selectLevels dom = .list (List.range (dom.nz + 1)) := by
  rcases h with h | h <;> simp [selectLevels, h, hf]

/-- otherwise only the measurement level `nz` (a scalar) -/
theorem levels_default (dom : DomainCfg) (h : dom.outputLevels = none ∨ dom.outputLevels = some [])
    (hf : dom.fullOutput = false) : selectLevels dom = .scalar dom.nz := by
  rcases h with h | h <;> simp [selectLevels, h, hf]

/-- the measurement point handed to the solver is the tower's local coordinates, x first -/
theorem meas_pt_is_tower_xy (dom : DomainCfg) (sol : SolverCfg) (met : MetCfg) (tower : TowerCfg) (i : ℕ)
    (flux cache : Option V) (c : SingleCalls) (h : runSingle dom sol met tower i flux cache = .ok c) :
    c.solMeasPt = (tower.x, tower.y) := by
  obtain ⟨_, _, hp⟩ := runSingle_is_pipeline dom sol met tower i flux cache c h
  exact hp.solver.2.2.1

/-- the run carries that step's timestamp-or-index and parameters -/
theorem result_labels (dom : DomainCfg) (sol : SolverCfg) (met : MetCfg) (tower : TowerCfg) (i : ℕ)
    (flux cache : Option V) (c : SingleCalls) (h : runSingle dom sol met tower i flux cache = .ok c) :
    met.getStep i = .ok c.params ∧ c.timestamp = c.params.timestamp ∧ c.towerName = tower.name := by
  obtain ⟨s, hs, hp⟩ := runSingle_is_pipeline dom sol met tower i flux cache c h
  obtain ⟨h1, _, h3, h4⟩ := hp.labels
  rw [h4]
  exact ⟨hs, h3, h1⟩

/-! non-vacuity: step 1 of a two-step forcing runs; the explicit `output_levels` and that step's `ustar` and wind direction reach the calls -/
example : ∃ c, runSingle ⟨8, 8, 100, 100, 4, 7, none, some [2, 0], false⟩ ⟨1, 2, true, false, 3, none⟩
    ⟨.list [30, 31], .scalar 5, .scalar 6, .list [270, 90], none, none⟩ ⟨11, 40, 50, 3⟩ 1 none none = .ok c ∧
    c.solLevels = .list [2, 0] ∧ c.profUstar = some 31 ∧ c.windDir = some 90 := by
  refine ⟨_, rfl, rfl, rfl, rfl⟩

end BLDFM.C13
