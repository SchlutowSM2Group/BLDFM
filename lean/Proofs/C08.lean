/-
  C08 — meteorological wind-direction convention: `compute_wind_fields` (`windFields`) decomposes speed and the
  bearing the wind blows from.
-/
import BLDFM.Geo
import Proofs.Lemmas.Spec
import Mathlib.Analysis.SpecialFunctions.Trigonometric.Basic

open BLDFM BLDFM.Spec

namespace BLDFM.C08

/-- `(u, v) = -s · (sin θ, cos θ)`: the wind blows towards the direction opposite to the
compass bearing `wd` (x = east, y = north), so "upwind of the tower" is the bearing `wd` -/
theorem wind_from_bearing (s wd : ℝ) :
    windFields RC s wd = (-s * Real.sin (wd * (Real.pi / 180)), -s * Real.cos (wd * (Real.pi / 180))) := by
  simp only [windFields, deg2rad]
  rc_norm
  norm_num

/-- the decomposition preserves the speed -/
theorem wind_speed_preserved (s wd : ℝ) :
    (windFields RC s wd).1 ^ 2 + (windFields RC s wd).2 ^ 2 = s ^ 2 := by
  rw [wind_from_bearing]
  linear_combination s ^ 2 * Real.sin_sq_add_cos_sq (wd * (Real.pi / 180))

/-- 0 / 90 / 180 / 270 degrees ↦ winds blowing toward south / west / north / east -/
theorem wind_cardinals (s : ℝ) :
    windFields RC s 0 = (0, -s) ∧ windFields RC s 90 = (-s, 0) ∧
    windFields RC s 180 = (0, s) ∧ windFields RC s 270 = (s, 0) := by
  rw [wind_from_bearing, wind_from_bearing, wind_from_bearing, wind_from_bearing]
  have h90 : (90 : ℝ) * (Real.pi / 180) = Real.pi / 2 := by ring
  have h180 : (180 : ℝ) * (Real.pi / 180) = Real.pi := by ring
  have h270 : (270 : ℝ) * (Real.pi / 180) = Real.pi / 2 + Real.pi := by ring
  refine ⟨?_, ?_, ?_, ?_⟩
  · simp
  · rw [h90]; simp
  · rw [h180]; simp
  · rw [h270, Real.sin_add, Real.cos_add]; simp

/-- the direction is periodic: `wd` and `wd + 360` give the same wind -/
theorem wind_periodic (s wd : ℝ) : windFields RC s (wd + 360) = windFields RC s wd := by
  rw [wind_from_bearing, wind_from_bearing]
  have : (wd + 360) * (Real.pi / 180) = wd * (Real.pi / 180) + 2 * Real.pi := by ring
  rw [this, Real.sin_add_two_pi, Real.cos_add_two_pi]

/-- opposite directions give opposite winds -/
theorem wind_opposite (s wd : ℝ) :
    windFields RC s (wd + 180) = (-(windFields RC s wd).1, -(windFields RC s wd).2) := by
  rw [wind_from_bearing, wind_from_bearing]
  have : (wd + 180) * (Real.pi / 180) = wd * (Real.pi / 180) + Real.pi := by ring
  rw [this, Real.sin_add_pi, Real.cos_add_pi]
  simp

end BLDFM.C08
