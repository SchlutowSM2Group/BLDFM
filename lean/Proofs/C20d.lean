/-
  C20d — "float summation order" as a theorem in a rounding model.
  The cumulative sums of `get_source_area` (and every grid sum of C03 / C19) are left-to-right floating-point sums.  In the
  standard model of rounding - every addition returns `fl (a + b)` with `|fl x - x| ≤ eps |x|`, whatever `fl` is otherwise -
  the computed sum of `n` terms differs from the exact one by at most `((1 + eps)^n - 1) Σ|xᵢ|`, two summation orders of
  the same terms by at most twice that, and for `n eps ≤ 1/2` the factor is at most `2 n eps` (`n = 10^6` cells in double
  precision: `2.3e-10` of `Σ|xᵢ|`).  This is the tolerance the oracles use; nothing here depends on IEEE details beyond the
  relative-error bound.
-/
import Mathlib.Analysis.SpecialFunctions.Pow.Real
import Mathlib.Tactic.Linarith
import Mathlib.Tactic.Positivity
import Mathlib.Tactic.Ring
import Mathlib.Data.List.Perm.Basic
import Mathlib.Algebra.BigOperators.Group.List.Basic

namespace BLDFM.C20

/-- left-to-right summation with a rounding after every addition, started from `s` -/
def flFold (fl : ℝ → ℝ) (s : ℝ) (l : List ℝ) : ℝ := l.foldl (fun a y => fl (a + y)) s

def absSum (l : List ℝ) : ℝ := (l.map (fun x => |x|)).sum

theorem absSum_nonneg (l : List ℝ) : 0 ≤ absSum l :=
  List.sum_nonneg (List.forall_mem_map.2 fun y _ => abs_nonneg y)

theorem absSum_cons (x : ℝ) (l : List ℝ) : absSum (x :: l) = |x| + absSum l := by
  simp [absSum]

theorem absSum_perm {l l' : List ℝ} (h : l.Perm l') : absSum l = absSum l' := by
  unfold absSum
  exact (h.map _).sum_eq

theorem abs_sum_le_absSum (l : List ℝ) : |l.sum| ≤ absSum l := by
  induction l with
  | nil => simp [absSum]
  | cons x l ih =>
    rw [List.sum_cons, absSum_cons]
    exact (abs_add_le _ _).trans (by linarith)

theorem abs_fl_le {fl : ℝ → ℝ} {eps : ℝ} (hfl : ∀ x, |fl x - x| ≤ eps * |x|) (x : ℝ) : |fl x| ≤ (1 + eps) * |x| := by
  have := abs_sub_abs_le_abs_sub (fl x) x
  have := hfl x
  linarith

/-- **accumulated rounding error of a left-to-right sum** -/
theorem flFold_error (fl : ℝ → ℝ) (eps : ℝ) (heps : 0 ≤ eps) (hfl : ∀ x, |fl x - x| ≤ eps * |x|)
    (l : List ℝ) : ∀ s : ℝ, |flFold fl s l - (s + l.sum)| ≤ ((1 + eps) ^ l.length - 1) * (|s| + absSum l) := by
  induction l with
  | nil => intro s; simp [flFold]
  | cons y l ih =>
    intro s
    have hA := absSum_nonneg l
    have hP : 1 ≤ (1 + eps) ^ l.length := one_le_pow₀ (by linarith)
    have hsy : |s + y| ≤ |s| + |y| := abs_add_le s y
    have h1 : |fl (s + y) - (s + y)| ≤ eps * (|s| + |y|) := (hfl _).trans (mul_le_mul_of_nonneg_left hsy heps)
    have h2 : |fl (s + y)| ≤ (1 + eps) * (|s| + |y|) :=
      (abs_fl_le hfl _).trans (mul_le_mul_of_nonneg_left hsy (by linarith))
    -- the tail started from the rounded `s + y`, then the rounding of `s + y` itself
    have hI : |flFold fl (fl (s + y)) l - (fl (s + y) + l.sum)|
        ≤ ((1 + eps) ^ l.length - 1) * ((1 + eps) * (|s| + |y|) + absSum l) :=
      (ih _).trans (mul_le_mul_of_nonneg_left (by linarith) (by linarith))
    have htri := abs_sub_le (flFold fl (fl (s + y)) l) (fl (s + y) + l.sum) (s + (y + l.sum))
    rw [show fl (s + y) + l.sum - (s + (y + l.sum)) = fl (s + y) - (s + y) by ring] at htri
    have hid : ((1 + eps) ^ l.length * (1 + eps) - 1) * (|s| + (|y| + absSum l))
        = ((1 + eps) ^ l.length - 1) * ((1 + eps) * (|s| + |y|) + absSum l) + eps * (|s| + |y|)
          + eps * (1 + eps) ^ l.length * absSum l := by ring
    have hpos : 0 ≤ eps * (1 + eps) ^ l.length * absSum l := by positivity
    rw [show flFold fl s (y :: l) = flFold fl (fl (s + y)) l from rfl, List.sum_cons, absSum_cons,
      List.length_cons, pow_succ, hid]
    linarith

theorem map_fl_close (fl : ℝ → ℝ) (eps : ℝ) (hfl : ∀ x, |fl x - x| ≤ eps * |x|) (l : List ℝ) :
    |(l.map fl).sum - l.sum| ≤ eps * absSum l ∧ absSum (l.map fl) ≤ (1 + eps) * absSum l := by
  induction l with
  | nil => simp [absSum]
  | cons x l ih =>
    rw [List.map_cons, List.sum_cons, List.sum_cons, absSum_cons, absSum_cons, add_sub_add_comm]
    exact ⟨(abs_add_le _ _).trans (by linarith [hfl x, ih.1]), by linarith [abs_fl_le hfl x, ih.2]⟩

/-- the computed sum (started from 0, as `np.cumsum` / `np.sum` over a flat array do) -/
def flSum (fl : ℝ → ℝ) (l : List ℝ) : ℝ := flFold fl 0 l

theorem flSum_error (fl : ℝ → ℝ) (eps : ℝ) (heps : 0 ≤ eps) (hfl : ∀ x, |fl x - x| ≤ eps * |x|) (l : List ℝ) :
    |flSum fl l - l.sum| ≤ ((1 + eps) ^ l.length - 1) * absSum l := by
  simpa [flSum] using flFold_error fl eps heps hfl l 0

/-- **rounded terms, then a rounded sum**: one more rounding per term than `flSum_error` -/
theorem flSum_map_fl_error (fl : ℝ → ℝ) (eps : ℝ) (heps : 0 ≤ eps) (hfl : ∀ x, |fl x - x| ≤ eps * |x|) (l : List ℝ) :
    |flSum fl (l.map fl) - l.sum| ≤ ((1 + eps) ^ (l.length + 1) - 1) * absSum l := by
  obtain ⟨h1, h2⟩ := map_fl_close fl eps hfl l
  have hs := flSum_error fl eps heps hfl (l.map fl)
  rw [List.length_map] at hs
  have hP : 1 ≤ (1 + eps) ^ l.length := one_le_pow₀ (by linarith)
  have hs' := hs.trans (mul_le_mul_of_nonneg_left h2 (by linarith))
  have hid : ((1 + eps) ^ (l.length + 1) - 1) * absSum l
      = ((1 + eps) ^ l.length - 1) * ((1 + eps) * absSum l) + eps * absSum l := by ring
  rw [hid]
  exact (abs_sub_le _ (l.map fl).sum _).trans (add_le_add hs' h1)

/-- **summation order**: the same terms summed in two different orders (the sort order of the base field may be any
permutation among ties; a chunked or pairwise re-ordering of the loop) agree up to twice the one-sum bound -/
theorem flSum_order (fl : ℝ → ℝ) (eps : ℝ) (heps : 0 ≤ eps) (hfl : ∀ x, |fl x - x| ≤ eps * |x|)
    {l l' : List ℝ} (h : l.Perm l') :
    |flSum fl l - flSum fl l'| ≤ 2 * (((1 + eps) ^ l.length - 1) * absSum l) := by
  have e1 := flSum_error fl eps heps hfl l
  have e2 := flSum_error fl eps heps hfl l'
  rw [← h.length_eq, ← absSum_perm h, ← h.sum_eq, abs_sub_comm] at e2
  exact (abs_sub_le _ l.sum _).trans (by linarith)

/-- the factor in closed form: `(1 + eps)^n - 1 ≤ 2 n eps` as long as `n eps ≤ 1/2` -/
theorem pow_sub_one_le (eps : ℝ) (heps : 0 ≤ eps) (n : ℕ) (hn : (n : ℝ) * eps ≤ 1 / 2) :
    (1 + eps) ^ n - 1 ≤ 2 * n * eps := by
  induction n with
  | zero => simp
  | succ k ih =>
    push_cast at hn ⊢
    have hk : (k : ℝ) * eps ≤ 1 / 2 := by linarith
    -- `(1 + eps)^(k+1) − 1 = (1 + eps) ((1 + eps)^k − 1) + eps ≤ (1 + eps) 2 k eps + eps`, and `2 k eps² ≤ eps`
    have h1 : (1 + eps) * ((1 + eps) ^ k - 1) ≤ (1 + eps) * (2 * k * eps) :=
      mul_le_mul_of_nonneg_left (ih hk) (by linarith)
    have h2 : 2 * k * eps * eps ≤ 1 * eps := mul_le_mul_of_nonneg_right (by linarith) heps
    rw [pow_succ]
    linarith

/-- **explicit tolerance**: `n` cells, unit roundoff `eps`, `n eps ≤ 1/2`: computed and exact sums differ by at most
`2 n eps Σ|xᵢ|`; for the rescaled source-area value (a partial sum of `f` over the cells ranked before the cell) this is
`2 n eps` of `Σ|f|` - `2.3e-10` for a million cells in double precision -/
theorem flSum_error_explicit (fl : ℝ → ℝ) (eps : ℝ) (heps : 0 ≤ eps) (hfl : ∀ x, |fl x - x| ≤ eps * |x|) (l : List ℝ)
    (hn : (l.length : ℝ) * eps ≤ 1 / 2) :
    |flSum fl l - l.sum| ≤ 2 * l.length * eps * absSum l :=
  (flSum_error fl eps heps hfl l).trans
    (mul_le_mul_of_nonneg_right (pow_sub_one_le eps heps l.length hn) (absSum_nonneg l))

/-! exact arithmetic (`fl = id`, `eps = 0`) sums exactly; `fl x = x (1 + 1/8)` is a rounding with `eps = 1/8`, and the bound
of `flSum_error` holds for it on `[1, 1]` -/
example : flSum id [1, 2, 3] = 6 := by norm_num [flSum, flFold]
example : |flSum (fun x => x * (1 + 1 / 8)) [1, 1] - 2| ≤ ((1 + 1 / 8 : ℝ) ^ 2 - 1) * 2 := by
  norm_num [flSum, flFold, abs_le]

end BLDFM.C20
