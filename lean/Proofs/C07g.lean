/-
  C07 (whole model pipeline) — mirroring in x in footprint mode: wind component `u ↦ -u`, tower mirrored
  (`i_m ↦ nx - 1 - i_m`, an on-grid tower); the source values do not matter in footprint mode (C04).  Component form: the
  coefficient pair of the mirrored run at slot `(a, b)` is that of the original run at the partner `(a, b̄)`, and the footprint
  phase of the mirrored tower is the phase of the original tower at the partner slot times `ω_x^{-f(b)}`.  Field form: when
  every x-slot has a partner (odd retained-mode count) the footprint and the concentration Green's function of the mirrored
  request are the mirrored fields on the padded domain, `field'[J, I] = field[J, Nx - 1 - I]`.
-/
import Proofs.C07e

open BLDFM BLDFM.Spec BLDFM.Index

namespace BLDFM.C07

/-- `r'` is the x-mirror image of the footprint request `r` whose tower sits on grid column `im` -/
def MirroredXfp (r r' : SolveReq ℝ) (im : ℕ) : Prop :=
  r' = { r with P := mirrorX r.P, xm := ((r.nx - 1 - im : ℕ) : ℝ) * (geom RC r).dx }

section
variable {r r' : SolveReq ℝ} {im : ℕ} (h : MirroredXfp r r' im)
include h

theorem mxfp_geom : geom RC r' = geom RC r := by
  rw [show r' = _ from h]
  rfl

theorem mxfp_srcSpectrum (hfp : r.footprint = true) (a b bb : ℕ) :
    (srcSpectrum RC r' (geom RC r)).get a b = (srcSpectrum RC r (geom RC r)).get a bb := by
  rw [C03.footprint_unit_spectrum r' ((congrArg (·.footprint) h).trans hfp), C03.footprint_unit_spectrum r hfp]

/-- mirror in x, footprint mode, component form -/
theorem mirrorX_fp_component (hp : r.precision = .double) (hfp : r.footprint = true) (l a b bb : ℕ)
    (hb : b < (geom RC r).nlx) (hbb : bb < (geom RC r).nlx)
    (hf : sfreq (geom RC r).nlx bb = -sfreq (geom RC r).nlx b) :
    modeCoef RC r' (geom RC r) (srcSpectrum RC r' (geom RC r)).get l a b =
      modeCoef RC r (geom RC r) (srcSpectrum RC r (geom RC r)).get l a bb := by
  rw [← one_smul ℂ (modeCoef RC r _ _ l a bb)]
  have hb0 : b = 0 ↔ bb = 0 := eq_zero_iff_of_sfreq_neg hb hbb hf
  have hS : (srcSpectrum RC r' (geom RC r)).get a b = 1 * (srcSpectrum RC r (geom RC r)).get a bb :=
    (mxfp_srcSpectrum h hfp a b bb).trans (one_mul _).symm
  have han : r'.analytic = r.analytic := congrArg (·.analytic) h
  have hnz : r'.nz = r.nz := congrArg (·.nz) h
  have hz : r'.z = r.z := congrArg (·.z) h
  have hK : r'.P.Kz = r.P.Kz := congrArg (·.P.Kz) h
  have hbg : r'.bg = r.bg := congrArg (·.bg) h
  refine modeCoef_congr (han := han) (hnz := hnz) (hz := hz) (hK := hK) (hbg := hbg) (h0 := and_congr_right fun _ => hb0)
    (hT := fun i => ?_) (hS := hS) (hχ := fun _ => rfl) l
  rw [show r'.P = mirrorX r.P from congrArg (·.P) h, waveX_neg _ hb hbb hf]
  exact Tcoef_mirrorX _ _ _ i

/-- the footprint phase of the mirrored tower -/
theorem mirrorX_fp_shift (hfp : r.footprint = true) (jm : ℕ) (him : im < r.nx)
    (hxm : r.xm = im * (geom RC r).dx) (hym : r.ym = jm * (geom RC r).dy)
    (hg : GeomOK (geom RC r)) (hdx : (geom RC r).dx ≠ 0) (hdy : (geom RC r).dy ≠ 0)
    (a b bb : ℕ) (ha : a < (geom RC r).nly) (hb : b < (geom RC r).nlx) (hbb : bb < (geom RC r).nlx)
    (hf : sfreq (geom RC r).nlx bb = -sfreq (geom RC r).nlx b) :
    shiftFactor RC r' (geom RC r) a b =
      rootPow (geom RC r).nxe (-sfreq (geom RC r).nlx b) * shiftFactor RC r (geom RC r) a bb := by
  have hN := C11.geom_nxe r
  -- the mirrored tower's padded column is `(Nx − 1) − (im + px)`
  have hcol : ((r.nx - 1 - im + (geom RC r).px : ℕ) : ℤ) = (geom RC r).nxe - 1 - ((im + (geom RC r).px : ℕ) : ℤ) := by omega
  have hfp' : r'.footprint = true := (congrArg (·.footprint) h).trans hfp
  have hxm' : r'.xm = ((r.nx - 1 - im : ℕ) : ℝ) * (geom RC r).dx := congrArg (·.xm) h
  have hym' : r'.ym = jm * (geom RC r).dy := (congrArg (·.ym) h).trans hym
  have s' : shiftFactor RC r' (geom RC r) a b =
      rootPow (geom RC r).nxe (sfreq (geom RC r).nlx b * ((r.nx - 1 - im + (geom RC r).px : ℕ) : ℤ))
        * rootPow (geom RC r).nye (sfreq (geom RC r).nly a * ((jm + (geom RC r).py : ℕ) : ℤ)) :=
    C06.footprint_phase_on_grid r' hfp' a b (r.nx - 1 - im) jm hxm' hym' ha hb hdx hdy hg.Nx_pos hg.Ny_pos
  have s0 : shiftFactor RC r (geom RC r) a bb =
      rootPow (geom RC r).nxe (sfreq (geom RC r).nlx bb * ((im + (geom RC r).px : ℕ) : ℤ))
        * rootPow (geom RC r).nye (sfreq (geom RC r).nly a * ((jm + (geom RC r).py : ℕ) : ℤ)) :=
    C06.footprint_phase_on_grid r hfp a bb im jm hxm hym ha hbb hdx hdy hg.Nx_pos hg.Ny_pos
  have hexp : sfreq (geom RC r).nlx b * ((geom RC r).nxe - 1 - ((im + (geom RC r).px : ℕ) : ℤ))
      = -sfreq (geom RC r).nlx b + -sfreq (geom RC r).nlx b * ((im + (geom RC r).px : ℕ) : ℤ)
        + (geom RC r).nxe * sfreq (geom RC r).nlx b := by
    ring
  rw [s', s0, hf, ← mul_assoc, ← rootPow_add, hcol, hexp, rootPow_add_mul _ hg.Nx_pos]

/-- mirror in x, footprint mode, field form: with an odd retained-mode count both padded-domain fields of the mirrored
request (wind component `u` negated, tower mirrored) are the mirrored fields -/
theorem mirrorX_footprint_field (hg : GeomOK (geom RC r)) (hp : r.precision = .double) (hfp : r.footprint = true)
    (jm : ℕ) (him : im < r.nx) (hxm : r.xm = im * (geom RC r).dx) (hym : r.ym = jm * (geom RC r).dy)
    (hdx : (geom RC r).dx ≠ 0) (hdy : (geom RC r).dy ≠ 0) (hodd : (geom RC r).nlx % 2 = 1)
    (l J I : ℕ) (hI : I < (geom RC r).nxe) :
    (fieldsAt RC r' (geom RC r') (srcSpectrum RC r' (geom RC r')).get l).1.get J I
      = (fieldsAt RC r (geom RC r) (srcSpectrum RC r (geom RC r)).get l).1.get J ((geom RC r).nxe - 1 - I) ∧
    (fieldsAt RC r' (geom RC r') (srcSpectrum RC r' (geom RC r')).get l).2.get J I
      = (fieldsAt RC r (geom RC r) (srcSpectrum RC r (geom RC r)).get l).2.get J ((geom RC r).nxe - 1 - I) := by
  rw [mxfp_geom h]
  refine Prod.mk.inj ?_
  rw [fieldsAt_trig r' _ hg, fieldsAt_trig r _ hg, show r'.footprint = r.footprint from congrArg (·.footprint) h]
  refine trig_mirrorX hg.Ny_pos hg.Nx_pos hodd (fun a ha b hb => ?_) J hI
  have hbb := partner_lt hb
  have hf := sfreq_partner_of_odd hodd hb
  rw [coefTab, coefTab, mirrorX_fp_component h hp hfp l a b _ hb hbb hf,
    mirrorX_fp_shift h hfp jm him hxm hym hg hdx hdy a b _ ha hb hbb hf, mul_smul, hfp, sgnZ_true, neg_one_mul]

end

/-! non-vacuity: a clamped odd grid (5 columns, 6 modes requested → 5 retained), the tower on column 1 (10 m = 1 · dx) -/
example : ∃ (r r' : SolveReq ℝ) (im jm : ℕ), MirroredXfp r r' im ∧ GeomOK (geom RC r) ∧ r.precision = .double ∧
    r.footprint = true ∧ im < r.nx ∧ r.xm = im * (geom RC r).dx ∧ r.ym = jm * (geom RC r).dy ∧
    (geom RC r).dx ≠ 0 ∧ (geom RC r).dy ≠ 0 ∧ (geom RC r).nlx % 2 = 1 := by
  refine ⟨{ Witness.wreq true with nlx := 6 }, _, 1, 1, rfl, ?_, rfl, rfl, ?_, ?_, ?_, ?_, ?_, ?_⟩
  · exact GeomOK.of_request _ (by decide) (by decide) (by decide) (by decide) (by decide) (by decide)
  · decide
  all_goals rw [C11.geom_no_halo rfl]
  · norm_num [Witness.wreq]
  · norm_num [Witness.wreq]
  · norm_num [Witness.wreq]
  · norm_num [Witness.wreq]
  · simp [clampModes, Witness.wreq]

end BLDFM.C07
