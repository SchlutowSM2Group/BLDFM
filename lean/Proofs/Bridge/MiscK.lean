/-
  Bridge: kernels regenerated from utils.py (`compute_wind_fields`, the four base functions of `get_source_area`),
  config_parser.py (`latlon_to_xy`) and plotting/_geo.py (`xy_to_latlon`) equal the model's.
-/
import BLDFM.Geo
import BLDFM.SourceArea
import Proofs.Lemmas.Spec
import BLDFM.Generated.MiscK

open BLDFM BLDFM.Spec

namespace BLDFM.Bridge

theorem wind_bridge (s wd : ℝ) :
    (Generated.windU RC s wd, Generated.windV RC s wd) = windFields RC s wd := by
  simp only [Generated.windU, Generated.windV, windFields, deg2rad]

theorem latlon_bridge (lat lon refLat refLon : ℝ) :
    (Generated.ll2x RC lat lon refLat refLon, Generated.ll2y RC lat lon refLat refLon)
      = latlonToXy RC lat lon refLat refLon := by
  simp only [Generated.ll2x, Generated.ll2y, latlonToXy, deg2rad, earthRadius]

theorem xy_bridge (x y refLat refLon : ℝ) :
    (Generated.xy2lat RC x y refLat refLon, Generated.xy2lon RC x y refLat refLon)
      = xyToLatlon RC x y refLat refLon := by
  simp only [Generated.xy2lat, Generated.xy2lon, xyToLatlon, deg2rad, rad2deg, earthRadius]

/-- source-area base functions -/
theorem base_bridge (x y xm ym u v : ℝ) :
    Generated.baseCircular RC x y xm ym = baseCircular x y xm ym ∧
    Generated.baseUpwind RC x y xm ym u v = baseUpwind RC x y xm ym u v ∧
    Generated.baseCrosswind RC x y xm ym u v = baseCrosswind RC x y xm ym u v ∧
    Generated.baseSector RC x y xm ym u v = baseSector RC x y xm ym u v := by
  refine ⟨rfl, rfl, rfl, ?_⟩
  simp only [Generated.baseSector, baseSector]

end BLDFM.Bridge
