/-
  Bridge: kernels regenerated from src/bldfm/ffm_kormann_meixner.py equal the model's (BLDFM/KM.lean).
-/
import BLDFM.KM
import Proofs.Lemmas.Spec
import BLDFM.Generated.KMK

open BLDFM BLDFM.Spec

namespace BLDFM.Bridge

theorem km_helpers_bridge (zm L ws ustar : ℝ) :
    Generated.phiM RC zm L = kmPhiM RC zm L ∧
    Generated.phiC RC zm L = kmPhiC RC zm L ∧
    Generated.psiM RC zm L = kmPsiM RC zm L ∧
    Generated.nParam RC zm L = kmN zm L ∧
    Generated.mParam RC zm ws ustar L (kmPhiM RC) = kmM RC zm ws ustar L := by
  refine ⟨?_, ?_, ?_, ?_, ?_⟩
  · simp only [Generated.phiM, kmPhiM]
  · simp only [Generated.phiC, kmPhiC]
  · simp only [Generated.psiM, kmPsiM, kmPsiUnstable]
  · simp only [Generated.nParam, kmN]
  · simp only [Generated.mParam, kmM, vonKarman]

/-- the parameter chain of `estimateFootprint` -/
theorem km_params_bridge (zm z0 ws ustar L sigmaV res : ℝ) :
    let p := kmPar RC zm z0 ws ustar L sigmaV
    let G := RC.gamma
    Generated.efM RC zm z0 ws ustar L sigmaV res (kmPhiM RC) (kmPhiC RC) (kmPsiM RC) (kmM RC) kmN G = p.m ∧
    Generated.efN RC zm z0 ws ustar L sigmaV res (kmPhiM RC) (kmPhiC RC) (kmPsiM RC) (kmM RC) kmN G = p.n ∧
    Generated.efKappa RC zm z0 ws ustar L sigmaV res (kmPhiM RC) (kmPhiC RC) (kmPsiM RC) (kmM RC) kmN G
      p.m p.n p.kappa p.U p.r p.mu p.Xi p.gmm p.mr p.A p.num = p.kappa ∧
    Generated.efU RC zm z0 ws ustar L sigmaV res (kmPhiM RC) (kmPhiC RC) (kmPsiM RC) (kmM RC) kmN G
      p.m p.n p.kappa p.U p.r p.mu p.Xi p.gmm p.mr p.A p.num = p.U ∧
    Generated.efR RC zm z0 ws ustar L sigmaV res (kmPhiM RC) (kmPhiC RC) (kmPsiM RC) (kmM RC) kmN G
      p.m p.n p.kappa p.U p.r p.mu p.Xi p.gmm p.mr p.A p.num = p.r ∧
    Generated.efMu RC zm z0 ws ustar L sigmaV res (kmPhiM RC) (kmPhiC RC) (kmPsiM RC) (kmM RC) kmN G
      p.m p.n p.kappa p.U p.r p.mu p.Xi p.gmm p.mr p.A p.num = p.mu ∧
    Generated.efXi RC zm z0 ws ustar L sigmaV res (kmPhiM RC) (kmPhiC RC) (kmPsiM RC) (kmM RC) kmN G
      p.m p.n p.kappa p.U p.r p.mu p.Xi p.gmm p.mr p.A p.num = p.Xi ∧
    Generated.efGmm RC zm z0 ws ustar L sigmaV res (kmPhiM RC) (kmPhiC RC) (kmPsiM RC) (kmM RC) kmN G
      p.m p.n p.kappa p.U p.r p.mu p.Xi p.gmm p.mr p.A p.num = p.gmm ∧
    Generated.efMr RC zm z0 ws ustar L sigmaV res (kmPhiM RC) (kmPhiC RC) (kmPsiM RC) (kmM RC) kmN G
      p.m p.n p.kappa p.U p.r p.mu p.Xi p.gmm p.mr p.A p.num = p.mr ∧
    Generated.efA RC zm z0 ws ustar L sigmaV res (kmPhiM RC) (kmPhiC RC) (kmPsiM RC) (kmM RC) kmN G
      p.m p.n p.kappa p.U p.r p.mu p.Xi p.gmm p.mr p.A p.num = p.A ∧
    Generated.efNum RC zm z0 ws ustar L sigmaV res (kmPhiM RC) (kmPhiC RC) (kmPsiM RC) (kmM RC) kmN G
      p.m p.n p.kappa p.U p.r p.mu p.Xi p.gmm p.mr p.A p.num = p.num := by
  repeat' apply And.intro
  all_goals rfl

/-- coordinates, upwind test and the per-cell expression -/
theorem km_cell_bridge (gx gy mx my wd res x y : ℝ) (p : KmPar ℝ) :
    (Generated.efXplain RC gx gy mx my wd, Generated.efYplain RC gx gy mx my wd) = kmCoords RC gx gy mx my none ∧
    (Generated.efXrot RC gx gy mx my wd, Generated.efYrot RC gx gy mx my wd) = kmCoords RC gx gy mx my (some wd) ∧
    (if Generated.efUpwind RC x = true then
        Generated.efCell RC res x y p.m p.n p.kappa p.U p.r p.mu p.Xi p.gmm p.mr p.A p.num else 0.0)
      = kmCell RC p res x y := by
  refine ⟨rfl, rfl, ?_⟩
  simp only [Generated.efUpwind, Generated.efCell, kmCell, gt_iff_lt, decide_eq_true_eq]

theorem km_z0_bridge (zm ws ustar L : ℝ) :
    Generated.z0raw RC zm ws ustar L (kmPsiM RC) = kmZ0 RC zm ws ustar L := by
  simp only [Generated.z0raw, kmZ0, vonKarman]

end BLDFM.Bridge
