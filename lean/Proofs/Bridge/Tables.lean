/-
  Bridge for the static extracts (tables regenerated from the AST on every run).
-/
import BLDFM.Generated.Tables

namespace BLDFM.Bridge

open BLDFM.Generated.Tables

/-- C16: `n_timesteps` inspects all four list-capable fields; `validate` also `z0` and `timestamps` -/
theorem met_fields_table :
    metFieldsNTimesteps = ["mol", "ustar", "wind_dir", "wind_speed"] ∧
    metFieldsValidate = ["mol", "timestamps", "ustar", "wind_dir", "wind_speed", "z0"] := ⟨rfl, rfl⟩

/-- C10: both sweeps (4 store sites) write a requested level at its own position -/
theorem level_store_table : levelStorePattern = ["by-position"] ∧ levelStoreSites = 4 := ⟨rfl, rfl⟩

/-- C20: the step sequence of `get_source_area` is the modelled one: flatten, argsort descending,
gather, cumulative sum, shift by one (exclusive prefix sum), scatter back through the same order into
an array of the sums' dtype, reshape -/
theorem source_area_steps_table :
    sourceAreaSteps = ["f_flat = f.ravel()", "g_flat = g.ravel()", "order = np.argsort(g_flat)[::-1]",
      "f_sorted = f_flat[order]", "M_cum = np.cumsum(f_sorted)", "M_shifted = np.zeros_like(M_cum)",
      "M_shifted[1:] = M_cum[:-1]", "g_rescaled = np.empty_like(g_flat, dtype=M_shifted.dtype)",
      "g_rescaled[order] = M_shifted", "return g_rescaled.reshape(g.shape)"] := rfl

/-- C20: the step sequence of `extract_percentile_contour` -/
theorem percentile_steps_table :
    percentileSteps = ["flx, grid = _maybe_slice_level(flx, grid, level)", "X, Y, _ = grid",
      "dx = np.abs(X[0, 1] - X[0, 0]) if X.ndim == 2 else np.abs(X[1] - X[0])",
      "dy = np.abs(Y[1, 0] - Y[0, 0]) if Y.ndim == 2 else np.abs(Y[1] - Y[0])", "cell_area = dx * dy",
      "flat = flx.ravel()", "idx = np.argsort(flat)[::-1]", "sorted_vals = flat[idx]",
      "cumsum = np.cumsum(sorted_vals) * cell_area", "total = cumsum[-1]", "target = pct * total",
      "k = np.searchsorted(cumsum, target)", "level = sorted_vals[min(k, len(sorted_vals) - 1)]",
      "area = (k + 1) * cell_area", "return (float(level), float(area))"] := rfl

/-- C15: the cache configuration read off the code hashes every result-determining solver argument,
keys both call sites on the resolved halo, writes atomically and guards the load -/
theorem cache_cfg_table :
    (∀ f ∈ BLDFM.Fld.determining, f ∈ cacheCfg.keyFields) ∧ cacheCfg.haloResolvedAtGet = true ∧
    cacheCfg.haloResolvedAtPut = true ∧ cacheCfg.atomicWrite = true ∧ cacheCfg.guardedLoad = true :=
  ⟨by decide, rfl, rfl, rfl, rfl⟩

/-- C15 (concurrency): the write protocol read off the code is the one `Proofs/C15b.lean` proves safe under every
interleaving: temporary file named after key and pid, renamed onto the entry, nothing removed by the constructor /
`get`, guarded load -/
theorem proto_cfg_table :
    protoCfg = { atomicWrite := true, tempPerProcess := true, initRemovesTemps := false, guardedLoad := true } := rfl

/-- C19 dtype clause: every stability helper allocates a float result (`np.zeros_like(zm, dtype=float)`), so that
`Proofs/C19c.lean` (`helpers_dtype_free`) applies: integer-typed heights / lengths give the same values as floats -/
theorem km_alloc_table :
    kmAlloc = [("_phiM", .float), ("_phiC", .float), ("_psiM", .float), ("_nParam", .float)] := rfl

/-- C20 dtype clause: the arrays `get_source_area` allocates take their type from the cumulative sums of `f`, never
from the base field `g` -/
theorem source_area_alloc_table : sourceAreaAlloc = [("M_shifted", .float), ("g_rescaled", .float)] := rfl

/-- C19: `estimateZ0` — raw roughness length, outlier removal, and the 1-degree bins with the wrapped ±half-window
median (wrap thresholds 90 / 270, inclusive lower and exclusive upper edge), as modelled by `z0Wrap` / `z0InWindow` -/
theorem estimateZ0_steps_table :
    estimateZ0Steps = ["k = von_karman", "n_obs = len(zm)", "if n_obs != len(ws) or n_obs != len(wd) or n_obs != len(ustar) or (n_obs != len(mo_len)):", "raise RuntimeError('Input parameters must be of the same length!')", "psi_m = _psiM(zm, mo_len)", "z0 = zm * np.exp(psi_m - k * ws / ustar)", "z0[z0 > 1000] = np.nan", "if half_wd_win < 1:", "return z0", "z0med = np.zeros_like(z0) + np.nan", "for kk in range(0, 360):", "wd_wrapped = wd.copy()", "if kk < 90:", "wd_wrapped[wd > 270] = wd[wd > 270] - 360", "elif kk > 270:", "wd_wrapped[wd < 90] = wd[wd < 90] + 360", "idx1 = np.logical_and(wd >= kk, wd < kk + 1)", "idx2 = np.logical_and(wd_wrapped >= kk - half_wd_win, wd_wrapped < kk + 1 + half_wd_win)", "z0med[idx1] = np.nanmedian(z0[idx2])", "return z0med"] := rfl

/-- C08/C17: tower coordinates are converted whenever a reference origin is configured (`is not None` — an
origin on the equator or the prime meridian is an origin), with (lat, lon, ref_lat, ref_lon) in this order -/
theorem tower_local_xy_table :
    towerLocalXY = ["self.domain.ref_lat is not None and self.domain.ref_lon is not None",
      "tower.compute_local_xy(self.domain.ref_lat, self.domain.ref_lon)",
      "self.x, self.y = latlon_to_xy(self.lat, self.lon, ref_lat, ref_lon)"] := rfl

/-- C12: the process-global mutable state of the modules on the solve path.  `RtState` models config.NUM_THREADS, the
FFT-manager singleton, pyfftw's thread setting and the compiled-kernel table.  numba's thread count has no field of its
own: `set_num_threads` is called from NUM_THREADS before every run of the parallel kernel, its only reader.  MAX_WORKERS,
OUTPUT_DIR and USE_CACHE are the other module-level names of config.py; the solver does not read them
(`body_solver_steady_state`).  A new module-level memo or a mutable default argument changes this table -/
theorem global_state_table :
    globalState = ["config.py:MAX_WORKERS", "config.py:NUM_THREADS", "config.py:OUTPUT_DIR", "config.py:USE_CACHE",
      "fft_manager.py:_fft_manager", "fft_manager.py:global _fft_manager", "fft_manager.py:writes pyfftw.config.NUM_THREADS",
      "solver.py:calls set_num_threads", "utils.py:parallelize._compiled closure cell"] := rfl

/-! C13: the keyword → expression tables of `run_bldfm_single` (local names inlined by substitution),
the level-selection chain, the returned dictionary and `load_config` are the documented ones -/

theorem call_table_single_assign_else_config_domain_output_levels_else_config_domain_full_output :
    (single_assign_else_config_domain_output_levels_else_config_domain_full_output : List (String × String)) = [("levels", "config.domain.nz")] := rfl

theorem call_table_single_assign_else_config_domain_output_levels_if_config_domain_full_output :
    (single_assign_else_config_domain_output_levels_if_config_domain_full_output : List (String × String)) = [("levels", "list(range(config.domain.nz + 1))")] := rfl

theorem call_table_single_assign_if_config_domain_output_levels :
    (single_assign_if_config_domain_output_levels : List (String × String)) = [("levels", "config.domain.output_levels")] := rfl

theorem call_table_single_assign_if_surface_flux_is_None :
    (single_assign_if_surface_flux_is_None : List (String × String)) = [("nxy", "(config.domain.nx, config.domain.ny)"), ("domain", "(config.domain.xmax, config.domain.ymax)")] := rfl

theorem call_table_single_ideal_source_if_surface_flux_is_None :
    (single_ideal_source_if_surface_flux_is_None : List (String × String)) = [("0", "nxy"), ("1", "domain"), ("src_loc", "config.solver.src_loc"), ("shape", "config.solver.surface_flux_shape")] := rfl

theorem call_table_single_return :
    (single_return : List (String × String)) = [("grid", "grid"), ("conc", "conc"), ("flx", "flx"), ("tower_name", "tower.name"), ("tower_xy", "(tower.x, tower.y)"), ("timestamp", "config.met.get_step(met_index)['timestamp']"), ("params", "config.met.get_step(met_index)")] := rfl

theorem call_table_single_steady_state_transport_solver :
    (single_steady_state_transport_solver : List (String × String)) = [("srf_flx", "surface_flux"), ("z", "z"), ("profiles", "profiles"), ("domain", "(config.domain.xmax, config.domain.ymax)"), ("levels", "levels"), ("modes", "config.domain.modes"), ("meas_pt", "(tower.x, tower.y)"), ("footprint", "config.solver.footprint"), ("analytic", "config.solver.analytic"), ("halo", "config.domain.halo"), ("precision", "config.solver.precision"), ("cache", "cache")] := rfl

theorem call_table_single_vertical_profiles_else_config_met_get_step_met_index__get__z0___is_not_None :
    (single_vertical_profiles_else_config_met_get_step_met_index__get__z0___is_not_None : List (String × String)) = [("n", "config.domain.nz"), ("meas_height", "tower.z_m"), ("wind", "(compute_wind_fields(config.met.get_step(met_index)['wind_speed'], config.met.get_step(met_index)['wind_dir'])[0], compute_wind_fields(config.met.get_step(met_index)['wind_speed'], config.met.get_step(met_index)['wind_dir'])[1])"), ("ustar", "config.met.get_step(met_index)['ustar']"), ("mol", "config.met.get_step(met_index)['mol']"), ("closure", "config.solver.closure")] := rfl

theorem call_table_single_vertical_profiles_if_config_met_get_step_met_index__get__z0___is_not_None :
    (single_vertical_profiles_if_config_met_get_step_met_index__get__z0___is_not_None : List (String × String)) = [("n", "config.domain.nz"), ("meas_height", "tower.z_m"), ("wind", "(compute_wind_fields(config.met.get_step(met_index)['wind_speed'], config.met.get_step(met_index)['wind_dir'])[0], compute_wind_fields(config.met.get_step(met_index)['wind_speed'], config.met.get_step(met_index)['wind_dir'])[1])"), ("z0", "config.met.get_step(met_index).get('z0')"), ("mol", "config.met.get_step(met_index)['mol']"), ("closure", "config.solver.closure")] := rfl

theorem call_table_loadConfigBody :
    (loadConfigBody : List String) = ["path = Path(path)", "if not path.exists():     raise FileNotFoundError(f'Config file not found: {path}')", "with open(path) as f:     raw = yaml.safe_load(f)", "return parse_config_dict(raw)"] := rfl

/-! C14: the statement structure of the serial / parallel drivers and of the pool workers (position-based
regrouping, `pool.map` in submission order, the workers' reset sequence); C01–C07, C10, C11: the solver's array plumbing -/

theorem table_driver_run_bldfm_timeseries :
    (driver_run_bldfm_timeseries : List String) = ["n = config.met.n_timesteps", "cache = _make_cache(config)", "results = []", "for i in range(n):", "  result = run_bldfm_single(config, tower, met_index=i, surface_flux=surface_flux, cache=cache)", "  results.append(result)", "return results"] := rfl

theorem table_driver_run_bldfm_multitower :
    (driver_run_bldfm_multitower : List String) = ["results = {}", "for tower in config.towers:", "  results[tower.name] = run_bldfm_timeseries(config, tower, surface_flux=surface_flux)", "return results"] := rfl

theorem table_driver_worker_single :
    (driver_worker_single : List String) = ["config, tower, met_index = args", "os.environ['NUMBA_NUM_THREADS'] = '1'", "from bldfm import config as cfg", "cfg.NUM_THREADS = 1", "from .fft_manager import reset_fft_manager", "reset_fft_manager()", "return run_bldfm_single(config, tower, met_index=met_index)"] := rfl

theorem table_driver_worker_timeseries :
    (driver_worker_timeseries : List String) = ["config, tower = args", "os.environ['NUMBA_NUM_THREADS'] = '1'", "from bldfm import config as cfg", "cfg.NUM_THREADS = 1", "from .fft_manager import reset_fft_manager", "reset_fft_manager()", "return (tower.name, run_bldfm_timeseries(config, tower))"] := rfl

theorem table_driver_run_bldfm_parallel :
    (driver_run_bldfm_parallel : List String) = ["if surface_flux is not None:", "if max_workers is None:", "  max_workers = config.parallel.max_workers", "n_towers = len(config.towers)", "n_time = config.met.n_timesteps", "if parallel_over == 'towers':", "  tasks = [(config, tower) for tower in config.towers]", "  with ProcessPoolExecutor(max_workers=max_workers) as pool:", "    futures = pool.map(_worker_timeseries, tasks)", "  results = {name: res for name, res in futures}", "else:", "  if parallel_over == 'time':", "    results = {}", "    for tower in config.towers:", "      tasks = [(config, tower, i) for i in range(n_time)]", "      with ProcessPoolExecutor(max_workers=max_workers) as pool:", "        step_results = list(pool.map(_worker_single, tasks))", "      results[tower.name] = step_results", "  else:", "    if parallel_over == 'both':", "      tasks = []", "      for tower in config.towers:", "        for i in range(n_time):", "          tasks.append((config, tower, i))", "      with ProcessPoolExecutor(max_workers=max_workers) as pool:", "        flat_results = list(pool.map(_worker_single, tasks))", "      results = {}", "      idx = 0", "      for tower in config.towers:", "        results[tower.name] = flat_results[idx:idx + n_time]", "        idx += n_time", "    else:", "      raise ValueError(f'Unknown parallel_over={parallel_over!r}. Choose 'towers', 'time', or 'both'.')", "return results"] := rfl

theorem table_driver_make_cache :
    (driver_make_cache : List String) = ["if config.parallel.use_cache and config.solver.footprint:", "  from .cache import GreensFunctionCache", "  return GreensFunctionCache()", "return None"] := rfl

theorem table_solverPlumbing :
    (solverPlumbing : List (String × String)) = [("(Lx, Ly)", "np.meshgrid(lx, ly)"), ("(Z, Y, X)", "np.meshgrid(z[levels], y, x, indexing='ij')"), ("<side-effect call>", "cache.put(z, profiles, domain, modes, meas_pt, halo_used, precision, *result, extra=cache_extra)"), ("<side-effect call>", "get_fft_manager(num_threads=1)"), ("<side-effect call>", "get_fft_manager(num_threads=config.NUM_THREADS)"), ("<side-effect call>", "set_num_threads(config.NUM_THREADS)"), ("conc", "p[:, py:nye - py, px:nxe - px]"), ("fftp", "ifftshift(fftp, axes=(1, 2))"), ("fftp", "np.pad(tfftp, pad_width, mode='constant', constant_values=0.0)"), ("fftq", "ifftshift(fftq, axes=(1, 2))"), ("fftq", "np.pad(tfftq, pad_width, mode='constant', constant_values=0.0)"), ("fftq0", "fft2(q0, norm='forward')"), ("fftq0", "fftshift(fftq0)"), ("flx", "q[:, py:nye - py, px:nxe - px]"), ("grid", "(np.squeeze(X), np.squeeze(Y), np.squeeze(Z))"), ("msk[0, 0]", "False"), ("p", "fft2(fftp, norm='backward').real"), ("p", "ifft2(fftp, norm='forward').real"), ("pad_width", "((0, 0), (dly, nye - nly - dly), (dlx, nxe - nlx - dlx))"), ("q", "fft2(fftq, norm='backward').real"), ("q", "ifft2(fftq, norm='forward').real"), ("q0", "np.pad(q0, ((py, py), (px, px)), mode='constant', constant_values=0.0)"), ("result", "(grid, np.squeeze(conc), np.squeeze(flx))"), ("tfftp", "fftshift(tfftp, axes=(1, 2))"), ("tfftp[0, 0, 0]", "p000"), ("tfftp[0, msk]", "alpha"), ("tfftp[0, msk]", "tfftq0[msk] * Kzinv / eigval"), ("tfftp[:, 0, 0]", "p000 - tfftq0[0, 0] * Kzinv * h[:, 0]"), ("tfftp[:, msk]", "alpha * tfftpm1 + tfftpm2"), ("tfftp[:, msk]", "tfftq[:, msk] * Kzinv / eigval"), ("tfftp[lvl, 0, 0]", "tfftp00"), ("tfftp[lvl, 0, 0]", "tfftp00"), ("tfftq", "fftshift(tfftq, axes=(1, 2))"), ("tfftq0", "fftq0[dly:dly + nly, dlx:dlx + nlx]"), ("tfftq0", "ifftshift(tfftq0)"), ("tfftq0", "np.ones((nly, nlx), dtype=np.complex128) / nxe / nye"), ("tfftq[:, 0, 0]", "tfftq0[0, 0]"), ("tfftq[:, msk]", "alpha * tfftqm1 + tfftqm2"), ("tfftq[:, msk]", "tfftq0[msk] * np.exp(-eigval * h)"), ("x", "np.linspace(0, xmx, nx, endpoint=False)"), ("y", "np.linspace(0, ymx, ny, endpoint=False)")] := rfl

/-- C15: the two cache call sites of the solver pass the solver's own arguments (and the resolved halo, and the tuple of
the remaining result-determining arguments) in the order `_compute_key` hashes them -/
theorem cache_call_sites_table :
    cacheCallSites = ["cache_extra = (levels, np.shape(srf_flx), analytic, srf_bg_conc)", "halo_used = max(domain) if halo is None else halo", "cache.get(z, profiles, domain, modes, meas_pt, halo_used, precision, extra=cache_extra)", "cache.put(z, profiles, domain, modes, meas_pt, halo_used, precision, *result, extra=cache_extra)"] := rfl

end BLDFM.Bridge
