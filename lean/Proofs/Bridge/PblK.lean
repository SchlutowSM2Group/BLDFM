/-
  Bridge: kernels regenerated from src/bldfm/pbl_model.py equal the model's (BLDFM/Pbl.lean).
-/
import BLDFM.Pbl
import Proofs.Lemmas.Spec
import BLDFM.Generated.PblK

open BLDFM BLDFM.Spec

namespace BLDFM.Bridge

theorem psi_bridge (x : ℝ) : Generated.psi RC x = psi RC x := by
  simp only [Generated.psi, psi, psiUnstable, gt_iff_lt]
  -- `np.where` evaluates both branches: the generated unstable branch carries `if 0 < x then nan else …` for `xi`
  -- under the same test as the outer `if`, so the two cases of the test are taken apart before comparing
  by_cases h : (0.0 : ℝ) < x
  · simp only [h, if_true]
  · simp only [h, if_false]

theorem phi_bridge (x : ℝ) : Generated.phi RC x = phi RC x := by
  simp only [Generated.phi, phi, gt_iff_lt]

/-- closure parameters -/
theorem closure_params_bridge (zm um vm ustar z0 mol prsc dh st tke zeta : ℝ) (n : ℕ) :
    let absum := RC.sqrt (um ^ 2 + vm ^ 2)
    Generated.absum RC zm um vm ustar z0 mol prsc dh st tke n zeta (psi RC) (phi RC) = absum ∧
    Generated.z0FromUstar RC zm um vm ustar z0 mol prsc dh st tke n zeta (psi RC) (phi RC)
      = z0FromUstar RC zm absum ustar mol ∧
    Generated.ustarFromZ0 RC zm um vm ustar z0 mol prsc dh st tke n zeta (psi RC) (phi RC)
      = ustarFromZ0 RC zm absum z0 mol ∧
    Generated.z0Oaahoc RC zm um vm ustar z0 mol prsc dh st tke n zeta (psi RC) (phi RC)
      = z0Oaahoc RC zm absum ustar tke ∧
    Generated.hDefault RC zm um vm ustar z0 mol prsc dh st tke n zeta (psi RC) (phi RC) = 2.0 * zm ∧
    Generated.zmxDefault RC zm um vm ustar z0 mol prsc dh st tke n zeta (psi RC) (phi RC) = 2.0 * zm := by
  repeat' apply And.intro
  all_goals rfl

/-- the stretched grid -/
theorem grid_bridge (zm um vm ustar z0 mol prsc h zmx tke zeta : ℝ) (n : ℕ) :
    Generated.gridBB RC zm um vm ustar z0 mol prsc h zmx tke n zeta (psi RC) (phi RC) = gridBB RC zm z0 h ∧
    Generated.gridAA RC zm um vm ustar z0 mol prsc h zmx tke n zeta (psi RC) (phi RC) = gridAA RC zm z0 h ∧
    Generated.gridZetaMax RC zm um vm ustar z0 mol prsc h zmx tke n zeta (psi RC) (phi RC) = gridZetaMax RC zm z0 h zmx ∧
    Generated.dzeta RC zm um vm ustar z0 mol prsc h zmx tke n zeta (psi RC) (phi RC) = zm / RC.natCast n ∧
    Generated.arange RC zm um vm ustar z0 mol prsc h zmx tke n zeta (psi RC) (phi RC)
      = (0.0, gridZetaMax RC zm z0 h zmx + zm / RC.natCast n, zm / RC.natCast n) ∧
    Generated.gridZ RC zm um vm ustar z0 mol prsc h zmx tke n zeta (psi RC) (phi RC) = gridZ RC zm z0 h zeta := by
  repeat' apply And.intro
  all_goals rfl

/-- profiles of the four closures at a node of height `zk` -/
theorem profiles_bridge (zm um vm ustar z0 mol prsc h zmx tke zeta zk : ℝ) (n : ℕ) :
    let absum := RC.sqrt (um ^ 2 + vm ^ 2)
    let au := absuMost RC ustar z0 mol zk
    let K := kMost RC ustar mol prsc zk
    -- MOST
    Generated.uMost RC zm um vm ustar z0 mol prsc h zmx tke n zeta (psi RC) (phi RC) zk = um / absum * au ∧
    Generated.vMost RC zm um vm ustar z0 mol prsc h zmx tke n zeta (psi RC) (phi RC) zk = vm / absum * au ∧
    Generated.KxMost RC zm um vm ustar z0 mol prsc h zmx tke n zeta (psi RC) (phi RC) zk = K ∧
    Generated.KyMost RC zm um vm ustar z0 mol prsc h zmx tke n zeta (psi RC) (phi RC) zk = K ∧
    Generated.KzMost RC zm um vm ustar z0 mol prsc h zmx tke n zeta (psi RC) (phi RC) zk = K ∧
    -- MOSTM
    Generated.uMostm RC zm um vm ustar z0 mol prsc h zmx tke n zeta (psi RC) (phi RC) zk = um / absum * au ∧
    Generated.vMostm RC zm um vm ustar z0 mol prsc h zmx tke n zeta (psi RC) (phi RC) zk = vm / absum * au ∧
    Generated.KxMostm RC zm um vm ustar z0 mol prsc h zmx tke n zeta (psi RC) (phi RC) zk
      = K * (vm / absum * au) ^ 2 / ((um / absum * au) ^ 2 + (vm / absum * au) ^ 2) ∧
    Generated.KyMostm RC zm um vm ustar z0 mol prsc h zmx tke n zeta (psi RC) (phi RC) zk
      = K * (um / absum * au) ^ 2 / ((um / absum * au) ^ 2 + (vm / absum * au) ^ 2) ∧
    Generated.KzMostm RC zm um vm ustar z0 mol prsc h zmx tke n zeta (psi RC) (phi RC) zk = K ∧
    -- CONSTANT
    Generated.uConst RC zm um vm ustar z0 mol prsc h zmx tke n zeta (psi RC) (phi RC) zk = um * 1.0 ∧
    Generated.vConst RC zm um vm ustar z0 mol prsc h zmx tke n zeta (psi RC) (phi RC) zk = vm * 1.0 ∧
    Generated.KxConst RC zm um vm ustar z0 mol prsc h zmx tke n zeta (psi RC) (phi RC) zk = kappa * ustar * zm / prsc * 1.0 ∧
    Generated.KyConst RC zm um vm ustar z0 mol prsc h zmx tke n zeta (psi RC) (phi RC) zk = kappa * ustar * zm / prsc * 1.0 ∧
    Generated.KzConst RC zm um vm ustar z0 mol prsc h zmx tke n zeta (psi RC) (phi RC) zk = kappa * ustar * zm / prsc * 1.0 ∧
    -- OAAHOC
    Generated.uOaahoc RC zm um vm ustar z0 mol prsc h zmx tke n zeta (psi RC) (phi RC) zk
      = um / absum * (ustar ^ 2 / oaCm / oaCl / RC.sqrt tke * RC.log (zk / z0)) ∧
    Generated.vOaahoc RC zm um vm ustar z0 mol prsc h zmx tke n zeta (psi RC) (phi RC) zk
      = vm / absum * (ustar ^ 2 / oaCm / oaCl / RC.sqrt tke * RC.log (zk / z0)) ∧
    Generated.KxOaahoc RC zm um vm ustar z0 mol prsc h zmx tke n zeta (psi RC) (phi RC) zk = oaCh * oaCl * zk * RC.sqrt tke ∧
    Generated.KyOaahoc RC zm um vm ustar z0 mol prsc h zmx tke n zeta (psi RC) (phi RC) zk = oaCh * oaCl * zk * RC.sqrt tke ∧
    Generated.KzOaahoc RC zm um vm ustar z0 mol prsc h zmx tke n zeta (psi RC) (phi RC) zk = oaCh * oaCl * zk * RC.sqrt tke := by
  repeat' apply And.intro
  all_goals rfl

end BLDFM.Bridge
