/-
  Bridge: the kernels regenerated from src/bldfm/solver.py (BLDFM.Generated.SolverK)
  equal the hand-written model kernels, for all inputs, over ℝ/ℂ.
  Re-elaborated whenever the generated file changes.
-/
import Proofs.Lemmas.Spec
import BLDFM.Generated.SolverK
import Proofs.Lemmas.Tactics

open BLDFM BLDFM.Spec

namespace BLDFM.Bridge

/-- the sweep's loop body is the model's layer step with node-`i` coefficients -/
theorem ivpBody_bridge (P : Profiles ℝ) (z : ℕ → ℝ) (Lx Ly : ℝ) (i : ℕ) (p q : ℂ) :
    Generated.ivpBody RC P.u P.v P.Kx P.Ky P.Kz z Lx Ly i p q =
      layerStep (Tcoef RC P Lx Ly i) (RC.ofReal (1.0 / P.Kz i)) (RC.ofReal (z (i + 1) - z i)) (p, q) := by
  simp only [Generated.ivpBody, layerStep, coefA, coefB, coefC, coefD, Tcoef, RC]
  refine Prod.ext ?_ ?_ <;> bridge_ring

theorem eigval_bridge (P : Profiles ℝ) (z : ℕ → ℝ) (nz : ℕ) (Lx Ly : ℝ) :
    Generated.eigval RC P.u P.v P.Kx P.Ky P.Kz z nz Lx Ly = eigval RC P (nz - 1) Lx Ly := by
  simp only [Generated.eigval, eigval, RC]
  congr 1
  bridge_ring

theorem alpha_bridge (P : Profiles ℝ) (z : ℕ → ℝ) (nz : ℕ) (lam p1 q1 p2 q2 : ℂ) :
    Generated.alpha RC P.u P.v P.Kx P.Ky P.Kz z nz lam p1 q1 p2 q2 =
      alphaShoot RC (P.Kz (nz - 1)) lam (p1, q1) (p2, q2) := by
  simp only [Generated.alpha, alphaShoot, RC]

theorem combine_bridge (al pm1 pm2 qm1 qm2 : ℂ) :
    (Generated.combineP RC al pm1 pm2, Generated.combineQ RC al qm1 qm2) =
      (al * pm1 + pm2, al * qm1 + qm2) := by
  simp only [Generated.combineP, Generated.combineQ]

/-- one step of the mean-mode loop adds one trapezoid term of the resistance -/
theorem meanStep_bridge (P : Profiles ℝ) (z : ℕ → ℝ) (i : ℕ) (bg q00 : ℂ) :
    Generated.meanStep RC P.u P.v P.Kx P.Ky P.Kz z i (meanNum RC P z bg q00 i) q00 =
      meanNum RC P z bg q00 (i + 1) := by
  simp only [Generated.meanStep, meanNum, resistNum, sumN, RC]
  bridge_ring

theorem ana_bridge (P : Profiles ℝ) (z : ℕ → ℝ) (nz : ℕ) (Lx Ly : ℝ) (qh : ℂ) (l : ℕ) :
    let lam := eigval RC P (nz - 1) Lx Ly
    let tq := Generated.anaQ RC qh lam (z l) P.u P.v P.Kx P.Ky P.Kz z
    (Generated.anaP RC tq lam nz P.u P.v P.Kx P.Ky P.Kz z, tq) = columnAna RC P z (nz - 1) Lx Ly qh l := by
  simp only [Generated.anaQ, Generated.anaP, columnAna, RC]

theorem anaMean_bridge (P : Profiles ℝ) (z : ℕ → ℝ) (nz : ℕ) (bg q00 : ℂ) (l : ℕ) :
    Generated.anaMean RC bg q00 (z l) nz P.u P.v P.Kx P.Ky P.Kz z = meanAna RC P z (nz - 1) bg q00 l := by
  simp only [Generated.anaMean, meanAna, RC]

/-- the halo actually used -/
noncomputable def haloOf (req : SolveReq ℝ) : ℝ := (geom RC req).halo

theorem haloDefault_bridge (req : SolveReq ℝ) (h : req.halo = none) :
    Generated.haloDefault RC req.xmx req.ymx = haloOf req := by
  simp only [Generated.haloDefault, haloOf, geom, h]

theorem haloExplicit (req : SolveReq ℝ) (x : ℝ) (h : req.halo = some x) : haloOf req = x := by
  simp only [haloOf, geom, h]

/-- grid increments, pad widths and extended sizes -/
theorem geom_bridge (req : SolveReq ℝ) :
    let g := geom RC req
    Generated.dxK RC req.xmx req.ymx req.nx req.ny (haloOf req) = g.dx ∧
    Generated.dyK RC req.xmx req.ymx req.nx req.ny (haloOf req) = g.dy ∧
    Generated.padX RC req.xmx req.ymx req.nx req.ny (haloOf req) = g.px ∧
    Generated.padY RC req.xmx req.ymx req.nx req.ny (haloOf req) = g.py ∧
    Generated.extX RC req.xmx req.ymx req.nx req.ny (haloOf req) = g.nxe ∧
    Generated.extY RC req.xmx req.ymx req.nx req.ny (haloOf req) = g.nye := by
  refine ⟨?_, ?_, ?_, ?_, ?_, ?_⟩ <;> rfl

theorem wave_bridge (req : SolveReq ℝ) (a b : ℕ) :
    let g := geom RC req
    Generated.waveX RC req.xmx req.ymx req.nx req.ny (haloOf req) (freqR RC g.nlx b) = waveX RC g b ∧
    Generated.waveY RC req.xmx req.ymx req.nx req.ny (haloOf req) (freqR RC g.nly a) = waveY RC g a := by
  refine ⟨?_, ?_⟩ <;> rfl

theorem fpSpectrum_bridge (req : SolveReq ℝ) (hfp : req.footprint = true) (a b : ℕ) :
    Generated.fpSpectrum RC req.xmx req.ymx req.nx req.ny (haloOf req) req.nlx req.nly =
      (srcSpectrum RC req (geom RC req)).get a b := by
  simp only [Generated.fpSpectrum, srcSpectrum, hfp, if_true, Tab2.get_tab, haloOf, geom, RC]
  bridge_ring

/-- footprint phase: the origin of the input grid sits at `(px·dx, py·dy)` in the padded domain -/
theorem shiftFootprint_bridge (req : SolveReq ℝ) (hfp : req.footprint = true) (a b : ℕ) :
    let g := geom RC req
    Generated.shiftFootprint RC (waveX RC g b) (waveY RC g a) req.xm req.ym req.xmx req.ymx
      req.nx req.ny (haloOf req) = shiftFactor RC req g a b := by
  simp only [Generated.shiftFootprint, shiftFactor, hfp, if_true, haloOf, geom, RC]

/-- dispersion-mode re-centring phase and its guard -/
theorem shiftRecentre_bridge (req : SolveReq ℝ) (hfp : req.footprint = false) (a b : ℕ) :
    let g := geom RC req
    (if Generated.recentreGuard RC req.xm req.ym then
      Generated.shiftRecentre RC (waveX RC g b) (waveY RC g a) req.xm req.ym req.xmx req.ymx
     else 1.0) = shiftFactor RC req g a b := by
  simp only [Generated.shiftRecentre, Generated.recentreGuard, shiftFactor, hfp, RC, gt_iff_lt,
    decide_eq_true_eq, Bool.false_eq_true, if_false]

end BLDFM.Bridge
