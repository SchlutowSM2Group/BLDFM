/-
  C03 (third clause, whole model pipeline) — a halo is exactly explicit zero padding: a request with a halo of
  `px × py` whole cells and the request whose source has been zero-padded by the caller by the same cells, whose
  domain has been enlarged accordingly and which asks for no halo, produce the same fields on the padded grid —
  hence the result of the first is the crop of the result of the second.
-/
import Proofs.Lemmas.Trig
import Proofs.C11
import Proofs.Lemmas.Witness

open BLDFM BLDFM.Spec BLDFM.Index

namespace BLDFM.C03

/-- `rp` is `r` with the halo made explicit by the caller -/
structure PaddedPair (r rp : SolveReq ℝ) : Prop where
  hny : rp.ny = r.ny + 2 * (geom RC r).py
  hnx : rp.nx = r.nx + 2 * (geom RC r).px
  hxmx : rp.xmx = r.xmx + 2 * ((geom RC r).px : ℝ) * (geom RC r).dx
  hymx : rp.ymx = r.ymx + 2 * ((geom RC r).py : ℝ) * (geom RC r).dy
  hhalo : rp.halo = some 0
  hq : ∀ J I, rp.q J I =
    if (geom RC r).py ≤ J ∧ J < (geom RC r).py + r.ny ∧ (geom RC r).px ≤ I ∧ I < (geom RC r).px + r.nx
    then r.q (J - (geom RC r).py) (I - (geom RC r).px) else 0
  hnz : rp.nz = r.nz
  hz : rp.z = r.z
  hP : rp.P = r.P
  hlv : rp.levels = r.levels
  hnlx : rp.nlx = r.nlx
  hnly : rp.nly = r.nly
  hbg : rp.bg = r.bg
  hfp : rp.footprint = r.footprint
  han : rp.analytic = r.analytic
  hpr : rp.precision = r.precision
  /-- footprint mode: the tower keeps its physical position; dispersion mode: un-centred output in both -/
  htower : (r.footprint = true ∧ rp.xm = r.xm + ((geom RC r).px : ℝ) * (geom RC r).dx ∧
              rp.ym = r.ym + ((geom RC r).py : ℝ) * (geom RC r).dy) ∨
           (r.footprint = false ∧ r.xm = 0 ∧ r.ym = 0 ∧ rp.xm = 0 ∧ rp.ym = 0)

theorem width_pad (x : ℝ) {n : ℕ} (hn : 0 < n) (p : ℕ) : (x + 2 * (p : ℝ) * (x / n)) / ((n + 2 * p : ℕ) : ℝ) = x / n := by
  push_cast
  field_simp

section
variable {r rp : SolveReq ℝ} (h : PaddedPair r rp) (hnx0 : 0 < r.nx) (hny0 : 0 < r.ny)
include h

theorem pp_px : (geom RC rp).px = 0 := by rw [C11.geom_no_halo h.hhalo]

theorem pp_py : (geom RC rp).py = 0 := by rw [C11.geom_no_halo h.hhalo]

theorem pp_nxe : (geom RC rp).nxe = (geom RC r).nxe := by
  rw [C11.geom_nxe, C11.geom_nxe, pp_px h, h.hnx, Nat.mul_zero, Nat.add_zero]

theorem pp_nye : (geom RC rp).nye = (geom RC r).nye := by
  rw [C11.geom_nye, C11.geom_nye, pp_py h, h.hny, Nat.mul_zero, Nat.add_zero]

include hnx0 in
theorem pp_dx : (geom RC rp).dx = (geom RC r).dx := by
  show rp.xmx / (rp.nx : ℝ) = r.xmx / (r.nx : ℝ)
  rw [h.hxmx, h.hnx]
  exact width_pad r.xmx hnx0 _

include hny0 in
theorem pp_dy : (geom RC rp).dy = (geom RC r).dy := by
  show rp.ymx / (rp.ny : ℝ) = r.ymx / (r.ny : ℝ)
  rw [h.hymx, h.hny]
  exact width_pad r.ymx hny0 _

theorem pp_nl : (geom RC rp).nlx = (geom RC r).nlx ∧ (geom RC rp).nly = (geom RC r).nly := by
  have e1 := C11.geom_nl rp
  have e2 := C11.geom_nl r
  rw [pp_nxe h, pp_nye h, h.hnlx, h.hnly] at e1
  exact ⟨e1.1.trans e2.1.symm, e1.2.trans e2.2.symm⟩

theorem pp_dl : (geom RC rp).dlx = (geom RC r).dlx ∧ (geom RC rp).dly = (geom RC r).dly := by
  have e1 := C11.geom_dl rp
  have e2 := C11.geom_dl r
  rw [pp_nxe h, pp_nye h, (pp_nl h).1, (pp_nl h).2] at e1
  exact ⟨e1.1.trans e2.1.symm, e1.2.trans e2.2.symm⟩

/-- the padded sources coincide cell by cell (also outside the grid, where both are zero) -/
theorem pp_padSrc : padSrc RC rp (geom RC rp) = padSrc RC r (geom RC r) := by
  funext J I
  rw [padSrc_RC, padSrc_RC, pp_px h, pp_py h, Nat.sub_zero, Nat.sub_zero, h.hny, h.hnx, h.hq]
  by_cases hw : (geom RC r).py ≤ J ∧ J < (geom RC r).py + r.ny ∧ (geom RC r).px ≤ I ∧ I < (geom RC r).px + r.nx
  · rw [if_pos hw, if_pos ⟨Nat.zero_le _, by omega, Nat.zero_le _, by omega⟩]
  · rw [if_neg hw, ite_self]

include hnx0 hny0 in
/-- halo ≡ explicit padding, whole pipeline: the two requests produce the same padded-domain fields at every
node, in both modes, numeric and analytic, for every truncation, parity and profile set -/
theorem halo_eq_padding_fields (l : ℕ) :
    fieldsAt RC rp (geom RC rp) (srcSpectrum RC rp (geom RC rp)).get l
      = fieldsAt RC r (geom RC r) (srcSpectrum RC r (geom RC r)).get l := by
  have hdx := pp_dx h hnx0
  have hdy := pp_dy h hny0
  have hNx := pp_nxe h
  have hNy := pp_nye h
  obtain ⟨hlx, hly⟩ := pp_nl h
  obtain ⟨hdlx, hdly⟩ := pp_dl h
  have wx : ∀ b, waveX RC (geom RC rp) b = waveX RC (geom RC r) b := by
    intro b; unfold waveX; rw [hdx, hNx, hlx]
  have wy : ∀ a, waveY RC (geom RC rp) a = waveY RC (geom RC r) a := by
    intro a; unfold waveY; rw [hdy, hNy, hly]
  have hS : srcSpectrum RC rp (geom RC rp) = srcSpectrum RC r (geom RC r) := by
    unfold srcSpectrum
    rw [h.hfp, hNx, hNy, hlx, hly, hdlx, hdly, pp_padSrc h]
  have hcoef : ∀ S a b, modeCoef RC rp (geom RC rp) S l a b = modeCoef RC r (geom RC r) S l a b := by
    intro S a b
    unfold modeCoef
    simp only [storeP_RC, h.han, h.hP, h.hz, h.hnz, h.hbg, wx, wy]
  have hshift : ∀ a b, shiftFactor RC rp (geom RC rp) a b = shiftFactor RC r (geom RC r) a b := by
    intro a b
    rw [shiftFactor_RC, shiftFactor_RC, h.hfp]
    rcases h.htower with ⟨hf, hx, hy⟩ | ⟨hf, hx, hy, hx', hy'⟩
    · simp only [hf, if_true, wx, wy, pp_px h, pp_py h, hx, hy, hdx, hdy, Nat.cast_zero, zero_mul, add_zero]
    · have z : ¬((0 : ℝ) < 0 ^ 2 + 0 ^ 2) := by norm_num
      simp only [hf, hx, hy, hx', hy', Bool.false_eq_true, if_false, z]
  rw [hS]
  exact fieldsAt_congr h.hfp hNy hNx hly hlx hdly hdlx (hcoef _) hshift

include hnx0 hny0 in
/-- … observed through the public result: the output of the halo request is the crop of the output of the
explicitly padded request -/
theorem halo_eq_padding (k j i : ℕ) :
    (solveOk RC r).conc k j i = (solveOk RC rp).conc k (j + (geom RC r).py) (i + (geom RC r).px) ∧
    (solveOk RC r).flx k j i = (solveOk RC rp).flx k (j + (geom RC r).py) (i + (geom RC r).px) := by
  simp only [solveOk, Tab1.get_tab, pp_px h, pp_py h, h.hlv, Nat.add_zero, halo_eq_padding_fields h hnx0 hny0, and_self]

end

/-- the explicitly padded partner of a request: what a caller does by hand -/
noncomputable def padOf (r : SolveReq ℝ) : SolveReq ℝ where
  ny := r.ny + 2 * (geom RC r).py
  nx := r.nx + 2 * (geom RC r).px
  nz := r.nz
  q := fun J I =>
    if (geom RC r).py ≤ J ∧ J < (geom RC r).py + r.ny ∧ (geom RC r).px ≤ I ∧ I < (geom RC r).px + r.nx
    then r.q (J - (geom RC r).py) (I - (geom RC r).px) else 0
  z := r.z
  P := r.P
  xmx := r.xmx + 2 * ((geom RC r).px : ℝ) * (geom RC r).dx
  ymx := r.ymx + 2 * ((geom RC r).py : ℝ) * (geom RC r).dy
  levels := r.levels
  nlx := r.nlx
  nly := r.nly
  xm := if r.footprint then r.xm + ((geom RC r).px : ℝ) * (geom RC r).dx else r.xm
  ym := if r.footprint then r.ym + ((geom RC r).py : ℝ) * (geom RC r).dy else r.ym
  bg := r.bg
  footprint := r.footprint
  analytic := r.analytic
  halo := some 0
  precision := r.precision

/-- every footprint request, and every dispersion request with the measurement point at the origin, has its
explicitly padded partner -/
theorem padOf_pair (r : SolveReq ℝ) (ht : r.footprint = true ∨ (r.xm = 0 ∧ r.ym = 0)) : PaddedPair r (padOf r) := by
  refine ⟨rfl, rfl, rfl, rfl, rfl, fun _ _ => rfl, rfl, rfl, rfl, rfl, rfl, rfl, rfl, rfl, rfl, rfl, ?_⟩
  cases hf : r.footprint
  · right
    rcases ht with ht | ⟨hx, hy⟩
    · rw [hf] at ht; cases ht
    · exact ⟨rfl, hx, hy, by simp [padOf, hf, hx], by simp [padOf, hf, hy]⟩
  · left
    exact ⟨rfl, by simp [padOf, hf], by simp [padOf, hf]⟩

/-! non-vacuity: a request with a two-cell halo -/

example : ∃ r : SolveReq ℝ, PaddedPair r (padOf r) ∧ 0 < r.nx ∧ 0 < r.ny ∧ (geom RC r).px = 2 ∧ (geom RC r).py = 2 := by
  refine ⟨{ Witness.wreq true with halo := some 20 }, padOf_pair _ (Or.inl rfl), ?_, ?_, ?_, ?_⟩
  · decide
  · decide
  · simp only [geom, Witness.wreq, RC]
    norm_num
  · simp only [geom, Witness.wreq, RC]
    norm_num

end BLDFM.C03
