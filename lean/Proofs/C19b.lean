/-
  C19 (mass clause, continuous part) — the crosswind-integrated Kormann–Meixner footprint
      f^y(x) = ξ^μ x^{-(1+μ)} e^{-ξ/x} / Γ(μ)           (x > 0)
  integrates to exactly one over the upwind half line, for every flux length scale `ξ > 0` and shape factor
  `μ > 0` (substitution `t = ξ/x` into Euler's integral), and the crosswind Gaussian has unit mass.
-/
import Mathlib.MeasureTheory.Integral.IntegralEqImproper
import Mathlib.Analysis.SpecialFunctions.Gamma.Basic
import Mathlib.Analysis.SpecialFunctions.Gaussian.GaussianIntegral

open MeasureTheory Set

namespace BLDFM.C19

/-- the substitution `t = ξ/x` on the half line -/
theorem integral_comp_div_Ioi (g : ℝ → ℝ) {ξ : ℝ} (hξ : 0 < ξ) :
    ∫ x in Ioi (0 : ℝ), ξ * x ^ (-2 : ℝ) * g (ξ / x) = ∫ t in Ioi (0 : ℝ), g t := by
  have h1 : ∫ t in Ioi (0 : ℝ), ξ * g (ξ * t) = ∫ s in Ioi (0 : ℝ), g s := by
    have h := integral_comp_mul_left_Ioi g 0 hξ
    rw [mul_zero] at h
    rw [integral_const_mul, h, smul_eq_mul, ← mul_assoc, mul_inv_cancel₀ hξ.ne', one_mul]
  have h2 := integral_comp_rpow_Ioi (fun t : ℝ => ξ * g (ξ * t)) (p := -1) (by norm_num)
  rw [← h1, ← h2]
  -- pointwise: `|-1| x^{-1-1} • (ξ g (ξ x⁻¹)) = ξ x^{-2} g (ξ / x)`
  refine setIntegral_congr_fun measurableSet_Ioi fun x _ => ?_
  simp only [smul_eq_mul, abs_neg, abs_one, one_mul, Real.rpow_neg_one, ← div_eq_mul_inv]
  norm_num
  ring

/-- Euler's integrand after the substitution is the crosswind-integrated footprint (times `Γ(μ)`) -/
theorem euler_comp_div {ξ x : ℝ} (μ : ℝ) (hξ : 0 < ξ) (hx : 0 < x) :
    ξ * x ^ (-2 : ℝ) * ((ξ / x) ^ (μ - 1) * Real.exp (-(ξ / x))) = ξ ^ μ * x ^ (-(1 + μ)) * Real.exp (-ξ / x) := by
  rw [Real.div_rpow hξ.le hx.le, Real.rpow_sub_one hξ.ne', show -(1 + μ) = -2 + -(μ - 1) by ring,
    Real.rpow_add hx, Real.rpow_neg hx.le (μ - 1), neg_div]
  field_simp

/-- `∫₀^∞ ξ^μ x^{-(1+μ)} e^{-ξ/x} dx = Γ(μ)` -/
theorem km_crosswind_integrated_integral (ξ μ : ℝ) (hξ : 0 < ξ) (hμ : 0 < μ) :
    ∫ x in Ioi (0 : ℝ), ξ ^ μ * x ^ (-(1 + μ)) * Real.exp (-ξ / x) = Real.Gamma μ := by
  rw [Real.Gamma_eq_integral hμ, ← integral_comp_div_Ioi (fun t => Real.exp (-t) * t ^ (μ - 1)) hξ]
  refine setIntegral_congr_fun measurableSet_Ioi fun x hx => ?_
  rw [mul_comm (Real.exp _), euler_comp_div μ hξ hx]

/-- the crosswind-integrated footprint has unit mass -/
theorem km_crosswind_integrated_unit_mass (ξ μ : ℝ) (hξ : 0 < ξ) (hμ : 0 < μ) :
    ∫ x in Ioi (0 : ℝ), ξ ^ μ * x ^ (-(1 + μ)) * Real.exp (-ξ / x) / Real.Gamma μ = 1 := by
  have hG : Real.Gamma μ ≠ 0 := (Real.Gamma_pos_of_pos hμ).ne'
  rw [integral_div, km_crosswind_integrated_integral ξ μ hξ hμ, div_self hG]

/-- the crosswind distribution `D_y = exp(-y²/(2σ²)) / (√(2π) σ)` has unit mass for every `σ > 0` -/
theorem km_crosswind_gaussian_unit_mass (σ : ℝ) (hσ : 0 < σ) :
    ∫ y : ℝ, Real.exp (-(1 / (2 * σ ^ 2)) * y ^ 2) / (Real.sqrt (2 * Real.pi) * σ) = 1 := by
  rw [integral_div, integral_gaussian]
  have e : Real.pi / (1 / (2 * σ ^ 2)) = (2 * Real.pi) * σ ^ 2 := by field_simp
  rw [e, Real.sqrt_mul' _ (sq_nonneg σ), Real.sqrt_sq hσ.le]
  exact div_self (by positivity)

end BLDFM.C19
