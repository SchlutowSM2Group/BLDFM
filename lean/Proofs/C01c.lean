/-
  C01 (convergence of the boundary-value solution, assembled) — the returned column is the shooting combination
  `α·s₁ + s₂` of two sweeps, `α` fixed by the decaying top condition `q = Kz λ p`.  If both sweeps are within `ε` of
  the exact fundamental solutions (which `sweep_bound_upto` provides with `ε = exp(L h)·C·δ·h`, first order in the
  layer thickness) and the exact shooting denominator is bounded away from zero, the column is within `K·ε` of the
  exact solution of the boundary-value problem, with an explicit `K`.
-/
import Proofs.C01b

open BLDFM BLDFM.Spec Set

namespace BLDFM.C01

/-- perturbation of the shooting coefficient `α = -N/D` -/
theorem alpha_perturb (N D Ns Ds : ℂ) (η d m : ℝ) (hd : 0 < d) (hDs : d ≤ ‖Ds‖) (hNs : ‖Ns‖ ≤ m)
    (hN : ‖N - Ns‖ ≤ η) (hD : ‖D - Ds‖ ≤ η) (hη : η ≤ d / 2) :
    ‖-N / D - -Ns / Ds‖ ≤ η * (2 * m / d ^ 2 + 2 / d) ∧ ‖-Ns / Ds‖ ≤ m / d := by
  have hη0 : 0 ≤ η := (norm_nonneg _).trans hN
  have hm : 0 ≤ m := (norm_nonneg _).trans hNs
  have hDn : d / 2 ≤ ‖D‖ := by
    have h := norm_sub_norm_le Ds D
    rw [norm_sub_rev] at h
    linarith
  have hD0 : D ≠ 0 := norm_pos_iff.1 (by linarith)
  have hDs0 : Ds ≠ 0 := norm_pos_iff.1 (hd.trans_le hDs)
  constructor
  · have e : -N / D - -Ns / Ds = -(N - Ns) / D + Ns * (D - Ds) / (D * Ds) := by field_simp; ring
    rw [e]
    refine (norm_add_le _ _).trans ?_
    rw [norm_div, norm_div, norm_neg, norm_mul, norm_mul]
    calc ‖N - Ns‖ / ‖D‖ + ‖Ns‖ * ‖D - Ds‖ / (‖D‖ * ‖Ds‖) ≤ η / (d / 2) + m * η / (d / 2 * d) := by gcongr
      _ = η * (2 * m / d ^ 2 + 2 / d) := by field_simp; ring
  · rw [norm_div, norm_neg]
    exact div_le_div₀ hm hNs hd hDs

theorem norm_topFun_sub_le (κ : ℂ) {x X : ℂ × ℂ} {ε : ℝ} (h : ‖x.1 - X.1‖ ≤ ε ∧ ‖x.2 - X.2‖ ≤ ε) :
    ‖(x.2 - κ * x.1) - (X.2 - κ * X.1)‖ ≤ (1 + ‖κ‖) * ε := by
  have e : (x.2 - κ * x.1) - (X.2 - κ * X.1) = (x.2 - X.2) - κ * (x.1 - X.1) := by ring
  rw [e, add_mul, one_mul]
  refine (norm_sub_le _ _).trans (add_le_add h.2 ?_)
  rw [norm_mul]
  exact mul_le_mul_of_nonneg_left h.1 (norm_nonneg κ)

theorem norm_comb_sub_le {α αs x y X Y : ℂ} {A Δ ε M : ℝ} (hα : ‖α‖ ≤ A) (hαs : ‖α - αs‖ ≤ Δ)
    (hx : ‖x - X‖ ≤ ε) (hy : ‖y - Y‖ ≤ ε) (hX : ‖X‖ ≤ M) :
    ‖(α * x + y) - (αs * X + Y)‖ ≤ A * ε + Δ * M + ε := by
  have e : (α * x + y) - (αs * X + Y) = α * (x - X) + (α - αs) * X + (y - Y) := by ring
  rw [e]
  refine (norm_add₃_le).trans (add_le_add (add_le_add ?_ ?_) hy)
  · rw [norm_mul]
    exact mul_le_mul hα hx (norm_nonneg _) ((norm_nonneg _).trans hα)
  · rw [norm_mul]
    exact mul_le_mul hαs hX (norm_nonneg _) ((norm_nonneg _).trans hαs)

/-- shooting: `t1, t2` (`n1, n2`) are the two sweeps at the top (at the node of interest), `T1, T2, N1, N2` the exact
fundamental solutions there; if all are within `ε`, the shooting combination is within `K ε` of the exact boundary-value
solution -/
theorem shooting_perturb (κ : ℂ) (t1 t2 T1 T2 n1 n2 N1 N2 : ℂ × ℂ) (ε M d : ℝ) (hd : 0 < d)
    (ht1 : ‖t1.1 - T1.1‖ ≤ ε ∧ ‖t1.2 - T1.2‖ ≤ ε) (ht2 : ‖t2.1 - T2.1‖ ≤ ε ∧ ‖t2.2 - T2.2‖ ≤ ε)
    (hn1 : ‖n1.1 - N1.1‖ ≤ ε ∧ ‖n1.2 - N1.2‖ ≤ ε) (hn2 : ‖n2.1 - N2.1‖ ≤ ε ∧ ‖n2.2 - N2.2‖ ≤ ε)
    (hT2 : ‖T2.1‖ ≤ M ∧ ‖T2.2‖ ≤ M) (hN1 : ‖N1.1‖ ≤ M ∧ ‖N1.2‖ ≤ M)
    (hden : d ≤ ‖T1.2 - κ * T1.1‖) (hsmall : (1 + ‖κ‖) * ε ≤ d / 2) :
    let α := -(t2.2 - κ * t2.1) / (t1.2 - κ * t1.1)
    let αs := -(T2.2 - κ * T2.1) / (T1.2 - κ * T1.1)
    let K := ((1 + ‖κ‖) * M / d + (1 + ‖κ‖) * ε * (2 * ((1 + ‖κ‖) * M) / d ^ 2 + 2 / d)) + (1 + ‖κ‖) * (2 * ((1 + ‖κ‖) * M) / d ^ 2 + 2 / d) * M + 1
    ‖(α * n1.1 + n2.1) - (αs * N1.1 + N2.1)‖ ≤ K * ε ∧ ‖(α * n1.2 + n2.2) - (αs * N1.2 + N2.2)‖ ≤ K * ε := by
  intro α αs K
  have hNs : ‖T2.2 - κ * T2.1‖ ≤ (1 + ‖κ‖) * M := by
    simpa using norm_topFun_sub_le κ (x := T2) (X := 0) (ε := M) (by simpa using hT2)
  obtain ⟨hα, hαs⟩ := alpha_perturb (t2.2 - κ * t2.1) (t1.2 - κ * t1.1) (T2.2 - κ * T2.1) (T1.2 - κ * T1.1)
    ((1 + ‖κ‖) * ε) d ((1 + ‖κ‖) * M) hd hden hNs (norm_topFun_sub_le κ ht2) (norm_topFun_sub_le κ ht1) hsmall
  have hαb : ‖α‖ ≤ (1 + ‖κ‖) * M / d + (1 + ‖κ‖) * ε * (2 * ((1 + ‖κ‖) * M) / d ^ 2 + 2 / d) :=
    (norm_le_norm_add_norm_sub' α αs).trans (add_le_add hαs hα)
  have hK : K * ε = ((1 + ‖κ‖) * M / d + (1 + ‖κ‖) * ε * (2 * ((1 + ‖κ‖) * M) / d ^ 2 + 2 / d)) * ε
      + (1 + ‖κ‖) * ε * (2 * ((1 + ‖κ‖) * M) / d ^ 2 + 2 / d) * M + ε := by
    simp only [K]; ring
  rw [hK]
  exact ⟨norm_comb_sub_le hαb hα hn1.1 hn2.1 hN1.1, norm_comb_sub_le hαb hα hn1.2 hn2.2 hN1.2⟩

/-- first-order convergence of the returned column to the exact solution of the boundary-value problem
(`q(z_0) = q̂`, decaying constant-coefficient continuation `q = Kz λ p` at the top node): with `ε` the first-order sweep
bound, the numerical column at every node `l ≤ top` is within `K·ε` of `α*·(p₁, q₁)(z_l) + (p₂, q₂)(z_l)`. -/
theorem column_first_order (P : Profiles ℝ) (z : ℕ → ℝ) (Lx Ly : ℝ) (qh : ℂ) (Tc kc p1 q1 p2 q2 : ℝ → ℂ)
    (top l : ℕ) (hl : l ≤ top) (a M Λ δ d : ℝ) (hΛ : 0 ≤ Λ) (hδ0 : 0 ≤ δ) (hδ1 : δ ≤ 1) (hd : 0 < d)
    (hsample : ∀ i, i < top → Tcoef RC P Lx Ly i = Tc (z i) ∧ RC.ofReal (1.0 / P.Kz i) = kc (z i))
    (hgrid : ∀ i, i < top → 0 ≤ z (i + 1) - z i ∧ z (i + 1) - z i ≤ δ)
    (hp1 : ∀ s ∈ Icc (z 0) (z top), HasDerivAt p1 (-(kc s) * q1 s) s)
    (hq1 : ∀ s ∈ Icc (z 0) (z top), HasDerivAt q1 (Tc s * p1 s) s)
    (hp2 : ∀ s ∈ Icc (z 0) (z top), HasDerivAt p2 (-(kc s) * q2 s) s)
    (hq2 : ∀ s ∈ Icc (z 0) (z top), HasDerivAt q2 (Tc s * p2 s) s)
    (init1 : p1 (z 0) = 1 ∧ q1 (z 0) = 0) (init2 : p2 (z 0) = 0 ∧ q2 (z 0) = qh)
    (hTa : ∀ s ∈ Icc (z 0) (z top), ‖Tc s‖ ≤ a) (hka : ∀ s ∈ Icc (z 0) (z top), ‖kc s‖ ≤ a)
    (hB1 : ∀ s ∈ Icc (z 0) (z top), ‖p1 s‖ ≤ M ∧ ‖q1 s‖ ≤ M) (hB2 : ∀ s ∈ Icc (z 0) (z top), ‖p2 s‖ ≤ M ∧ ‖q2 s‖ ≤ M)
    (hTl : ∀ s ∈ Icc (z 0) (z top), ∀ t ∈ Icc (z 0) (z top), ‖Tc s - Tc t‖ ≤ Λ * |s - t|)
    (hkl : ∀ s ∈ Icc (z 0) (z top), ∀ t ∈ Icc (z 0) (z top), ‖kc s - kc t‖ ≤ Λ * |s - t|)
    (hden : d ≤ ‖q1 (z top) - RC.ofReal (P.Kz top) * eigval RC P top Lx Ly * p1 (z top)‖)
    (hsmall : (1 + ‖RC.ofReal (P.Kz top) * eigval RC P top Lx Ly‖)
        * (Real.exp ((a + a ^ 2 / 2 + a ^ 3 / 6) * (z top - z 0))
          * ((Λ * M + a ^ 2 * M + a ^ 2 * M / 2 + a ^ 3 * M / 6) * δ * (z top - z 0))) ≤ d / 2) :
    let κ := RC.ofReal (P.Kz top) * eigval RC P top Lx Ly
    let ε := Real.exp ((a + a ^ 2 / 2 + a ^ 3 / 6) * (z top - z 0))
          * ((Λ * M + a ^ 2 * M + a ^ 2 * M / 2 + a ^ 3 * M / 6) * δ * (z top - z 0))
    let αs := -(q2 (z top) - κ * p2 (z top)) / (q1 (z top) - κ * p1 (z top))
    let K := ((1 + ‖κ‖) * M / d + (1 + ‖κ‖) * ε * (2 * ((1 + ‖κ‖) * M) / d ^ 2 + 2 / d)) + (1 + ‖κ‖) * (2 * ((1 + ‖κ‖) * M) / d ^ 2 + 2 / d) * M + 1
    ‖(columnNum RC P z top Lx Ly qh l).1 - (αs * p1 (z l) + p2 (z l))‖ ≤ K * ε ∧
    ‖(columnNum RC P z top Lx Ly qh l).2 - (αs * q1 (z l) + q2 (z l))‖ ≤ K * ε := by
  intro κ ε αs K
  have hztop : z top ∈ Icc (z 0) (z top) := z_mem_Icc (fun i hi => (hgrid i hi).1) le_rfl
  have hzl : z l ∈ Icc (z 0) (z top) := z_mem_Icc (fun i hi => (hgrid i hi).1) hl
  have s1 := fun n hn => norm_prod_le_iff.1 (sweep_bound_upto P z Lx Ly Tc kc p1 q1 top n hn a M Λ δ hΛ hδ0 hδ1 hsample
    hgrid hp1 hq1 hTa hka (fun s hs => (hB1 s hs).1) (fun s hs => (hB1 s hs).2) hTl hkl)
  have s2 := fun n hn => norm_prod_le_iff.1 (sweep_bound_upto P z Lx Ly Tc kc p2 q2 top n hn a M Λ δ hΛ hδ0 hδ1 hsample
    hgrid hp2 hq2 hTa hka (fun s hs => (hB2 s hs).1) (fun s hs => (hB2 s hs).2) hTl hkl)
  have i1 : (p1 (z 0), q1 (z 0)) = ((1.0 : ℂ), (0.0 : ℂ)) := by rw [init1.1, init1.2]; norm_num
  have i2 : (p2 (z 0), q2 (z 0)) = ((0.0 : ℂ), qh) := by rw [init2.1, init2.2]; norm_num
  rw [i1] at s1
  rw [i2] at s2
  simp only [columnNum, alphaShoot]
  exact shooting_perturb κ
    (ivpState RC P z Lx Ly ((1.0 : ℂ), (0.0 : ℂ)) top) (ivpState RC P z Lx Ly ((0.0 : ℂ), qh) top)
    (p1 (z top), q1 (z top)) (p2 (z top), q2 (z top))
    (ivpState RC P z Lx Ly ((1.0 : ℂ), (0.0 : ℂ)) l) (ivpState RC P z Lx Ly ((0.0 : ℂ), qh) l)
    (p1 (z l), q1 (z l)) (p2 (z l), q2 (z l)) ε M d hd (s1 top le_rfl) (s2 top le_rfl) (s1 l hl) (s2 l hl)
    (hB2 _ hztop) (hB1 _ hzl) hden hsmall

/-- the smallness hypothesis of `column_first_order`, `(1 + |κ|)·ε ≤ d/2` with the sweep bound `ε = exp(L h)·C·δ·h`,
rearranged as a condition on `δ` alone (it holds once `δ ≤ d / (2 (1 + |κ|) exp(L h) C h)`); the sign hypotheses
play no part in the rearrangement -/
theorem small_of_fine (κn L C h d δ : ℝ) (hκ : 0 ≤ κn) (hC : 0 ≤ C) (hh : 0 ≤ h) (hd : 0 < d)
    (hδ : δ * ((1 + κn) * (Real.exp (L * h) * (C * h))) ≤ d / 2) :
    (1 + κn) * (Real.exp (L * h) * (C * δ * h)) ≤ d / 2 := by
  have : (1 + κn) * (Real.exp (L * h) * (C * δ * h)) = δ * ((1 + κn) * (Real.exp (L * h) * (C * h))) := by ring
  rw [this]; exact hδ

/-- the error bound `K·ε` of `column_first_order` as `(K·E)·δ`, `E = exp(L h)·C·h` free of `δ`; `K` itself still
contains `ε`, which the smallness hypothesis keeps below `d / (2 (1 + |κ|))` -/
theorem bound_linear_in_delta (K L C h δ : ℝ) :
    K * (Real.exp (L * h) * (C * δ * h)) = (K * (Real.exp (L * h) * (C * h))) * δ := by ring

end BLDFM.C01
