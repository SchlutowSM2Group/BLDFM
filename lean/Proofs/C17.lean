/-
  C17 — tower geolocation: local metres and lat/lon are mutual inverses, well oriented.  `half_le_cos_deg`,
  `local_dist_eq` and `local_angle_le` serve both accuracy clauses (distance, bearing against the great circle).
-/
import BLDFM.Geo
import Proofs.Lemmas.Spec
import Mathlib.Analysis.SpecialFunctions.Trigonometric.Basic

open BLDFM BLDFM.Spec

namespace BLDFM.C17

/-- the east coordinate, factors in the order `R · (cos φ₀ · Δλ)` in which `bearing_core` takes the local direction -/
theorem latlonToXy_fst (lat lon refLat refLon : ℝ) :
    (latlonToXy RC lat lon refLat refLon).1
      = 6371000 * (Real.cos (refLat * (Real.pi / 180)) * ((lon - refLon) * (Real.pi / 180))) := by
  simp only [latlonToXy, deg2rad, earthRadius]
  rc_norm
  norm_num; ring

theorem latlonToXy_snd (lat lon refLat refLon : ℝ) :
    (latlonToXy RC lat lon refLat refLon).2 = 6371000 * ((lat - refLat) * (Real.pi / 180)) := by
  simp only [latlonToXy, deg2rad, earthRadius]
  rc_norm
  norm_num; ring

theorem xyToLatlon_eq (x y refLat refLon : ℝ) :
    xyToLatlon RC x y refLat refLon
      = (refLat + y / 6371000 * (180 / Real.pi),
         refLon + x / (6371000 * Real.cos (refLat * (Real.pi / 180))) * (180 / Real.pi)) := by
  simp only [xyToLatlon, deg2rad, rad2deg, earthRadius]
  rc_norm
  norm_num

theorem half_le_cos_deg {x : ℝ} (h : |x| ≤ 60) : 1 / 2 ≤ Real.cos (x * (Real.pi / 180)) := by
  have hpi := Real.pi_pos
  have habs : |x * (Real.pi / 180)| ≤ Real.pi / 3 := by
    rw [abs_mul, abs_of_pos (by positivity : (0 : ℝ) < Real.pi / 180)]
    linarith only [mul_le_mul_of_nonneg_right h (by positivity : (0 : ℝ) ≤ Real.pi / 180)]
  rw [← Real.cos_abs, ← Real.cos_pi_div_three]
  exact Real.cos_le_cos_of_nonneg_of_le_pi (abs_nonneg _) (by linarith only [hpi]) habs

/-- the local distance is the earth radius times the local angle `t = √(a² + cos² φ₀ · b²)` -/
theorem local_dist_eq (lat lon refLat refLon : ℝ) :
    Real.sqrt ((latlonToXy RC lat lon refLat refLon).1 ^ 2 + (latlonToXy RC lat lon refLat refLon).2 ^ 2)
      = 6371000 * Real.sqrt (((lat - refLat) * (Real.pi / 180)) ^ 2
          + Real.cos (refLat * (Real.pi / 180)) ^ 2 * ((lon - refLon) * (Real.pi / 180)) ^ 2) := by
  rw [latlonToXy_fst, latlonToXy_snd]
  have hsq : (6371000 * (Real.cos (refLat * (Real.pi / 180)) * ((lon - refLon) * (Real.pi / 180)))) ^ 2
        + (6371000 * ((lat - refLat) * (Real.pi / 180))) ^ 2
      = 6371000 ^ 2 * (((lat - refLat) * (Real.pi / 180)) ^ 2
          + Real.cos (refLat * (Real.pi / 180)) ^ 2 * ((lon - refLon) * (Real.pi / 180)) ^ 2) := by
    rw [mul_pow 6371000, mul_pow 6371000, ← mul_add, add_comm, mul_pow (Real.cos _)]
  rw [hsq, Real.sqrt_mul (sq_nonneg _), Real.sqrt_sq (by norm_num)]

theorem local_angle_le {lat lon refLat refLon ε : ℝ}
    (hd : Real.sqrt ((latlonToXy RC lat lon refLat refLon).1 ^ 2 + (latlonToXy RC lat lon refLat refLon).2 ^ 2)
      ≤ 6371000 * ε) :
    Real.sqrt (((lat - refLat) * (Real.pi / 180)) ^ 2
      + Real.cos (refLat * (Real.pi / 180)) ^ 2 * ((lon - refLon) * (Real.pi / 180)) ^ 2) ≤ ε := by
  rw [local_dist_eq] at hd
  exact le_of_mul_le_mul_left hd (by norm_num)

/-- lat/lon → local metres → lat/lon is the identity (non-polar reference) -/
theorem xy_latlon_left_inv (lat lon refLat refLon : ℝ)
    (hc : Real.cos (refLat * (Real.pi / 180)) ≠ 0) :
    let p := latlonToXy RC lat lon refLat refLon
    xyToLatlon RC p.1 p.2 refLat refLon = (lat, lon) := by
  simp only [xyToLatlon_eq, latlonToXy_fst, latlonToXy_snd]
  generalize Real.cos (refLat * (Real.pi / 180)) = c at hc ⊢
  refine Prod.ext ?_ ?_ <;> (simp only []; field_simp; ring)

/-- local metres → lat/lon → local metres is the identity -/
theorem xy_latlon_right_inv (x y refLat refLon : ℝ)
    (hc : Real.cos (refLat * (Real.pi / 180)) ≠ 0) :
    let p := xyToLatlon RC x y refLat refLon
    latlonToXy RC p.1 p.2 refLat refLon = (x, y) := by
  refine Prod.ext ?_ ?_ <;> simp only [latlonToXy_fst, latlonToXy_snd, xyToLatlon_eq]
  · generalize Real.cos (refLat * (Real.pi / 180)) = c at hc ⊢
    field_simp; ring
  · field_simp; ring

/-- the reference origin maps to (0, 0) -/
theorem origin_maps_to_zero (refLat refLon : ℝ) :
    latlonToXy RC refLat refLon refLat refLon = (0, 0) :=
  Prod.ext (by simp [latlonToXy_fst]) (by simp [latlonToXy_snd])

/-- x grows eastward: strictly increasing in longitude for |ref latitude| < 90° -/
theorem x_strictMono_lon (lat refLat refLon : ℝ) (h1 : -90 < refLat) (h2 : refLat < 90) :
    StrictMono (fun lon => (latlonToXy RC lat lon refLat refLon).1) := by
  have hpi := Real.pi_pos
  have hcos : 0 < Real.cos (refLat * (Real.pi / 180)) :=
    Real.cos_pos_of_mem_Ioo ⟨by nlinarith only [hpi, h1], by nlinarith only [hpi, h2]⟩
  intro x y hxy
  simp only [latlonToXy_fst]
  gcongr

/-- y grows northward: strictly increasing in latitude -/
theorem y_strictMono_lat (lon refLat refLon : ℝ) :
    StrictMono (fun lat => (latlonToXy RC lat lon refLat refLon).2) := by
  intro x y hxy
  simp only [latlonToXy_snd]
  gcongr

/-- along a meridian the local distance is exactly the great-circle arc length `R·Δφ` -/
theorem meridian_distance_exact (lat refLat refLon : ℝ) :
    (latlonToXy RC lat refLon refLat refLon).1 = 0 ∧
    (latlonToXy RC lat refLon refLat refLon).2 = 6371000 * ((lat - refLat) * (Real.pi / 180)) :=
  ⟨by simp [latlonToXy_fst], latlonToXy_snd ..⟩

/-! the equator is a non-polar reference latitude (`hc` of the two inverse theorems) -/
example : Real.cos ((0 : ℝ) * (Real.pi / 180)) ≠ 0 := by simp

end BLDFM.C17
