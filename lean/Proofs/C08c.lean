/-
  C08 — cardinal wind directions: the footprint is mirror-symmetric about the wind axis through the tower.  For
  `wind_dir ∈ {0, 180}` the decomposition gives `u = 0` exactly (`wind_cardinals`) and the profiles keep the direction (C09), so
  `u ≡ 0` at every node; with the tower on the middle column the x-mirror of the request is the request itself, and
  `C07.mirrorX_footprint_field` gives the symmetry about that column on the padded domain (odd retained-mode count, so that
  every Fourier component has its mirror partner).  The 90 / 270 case (x and y exchanged, from `C07.mirrorY_footprint_field`)
  is not stated separately.
-/
import Proofs.C07g

open BLDFM BLDFM.Spec BLDFM.Index

namespace BLDFM.C08

/-- a north/south wind, the tower on the middle column of an odd-width grid: both footprint-mode fields are symmetric about
the tower's column, `field[J, I] = field[J, Nx - 1 - I]` -/
theorem cardinal_footprint_symmetric (r : SolveReq ℝ) (im jm : ℕ) (hu : ∀ i, r.P.u i = 0) (hmid : 2 * im + 1 = r.nx)
    (hg : GeomOK (geom RC r)) (hp : r.precision = .double) (hfp : r.footprint = true)
    (hxm : r.xm = im * (geom RC r).dx) (hym : r.ym = jm * (geom RC r).dy)
    (hdx : (geom RC r).dx ≠ 0) (hdy : (geom RC r).dy ≠ 0) (hodd : (geom RC r).nlx % 2 = 1)
    (l J I : ℕ) (hI : I < (geom RC r).nxe) :
    (fieldsAt RC r (geom RC r) (srcSpectrum RC r (geom RC r)).get l).1.get J I
      = (fieldsAt RC r (geom RC r) (srcSpectrum RC r (geom RC r)).get l).1.get J ((geom RC r).nxe - 1 - I) ∧
    (fieldsAt RC r (geom RC r) (srcSpectrum RC r (geom RC r)).get l).2.get J I
      = (fieldsAt RC r (geom RC r) (srcSpectrum RC r (geom RC r)).get l).2.get J ((geom RC r).nxe - 1 - I) := by
  have hP : C07.mirrorX r.P = r.P := by
    unfold C07.mirrorX
    rw [show (fun i => -r.P.u i) = r.P.u from funext fun i => by rw [hu i, neg_zero]]
  have hidx : r.nx - 1 - im = im := by omega
  have hself : C07.MirroredXfp r r im := by
    unfold C07.MirroredXfp
    rw [hP, hidx, ← hxm]
  exact C07.mirrorX_footprint_field hself hg hp hfp jm (by omega) hxm hym hdx hdy hodd l J I hI

end BLDFM.C08
