/-
  C18b — "the same x, y and z coordinates": the writer stores one vector per axis, extracted from the first result's
  grid; for grids that are outer products of coordinate vectors (what `np.meshgrid` / the solver return) the stored
  vectors are those vectors and the whole grid is recovered from them at every index - in the level order given, which
  need not be ascending.  Dimension sizes are the number of result keys and the length of the first series.
-/
import Proofs.C18

open BLDFM

namespace BLDFM.C18

/-- 3-D grid as the solver returns it: `X[k,j,i] = xs i`, `Y[k,j,i] = ys j`, `Z[k,j,i] = zs k` -/
def meshgrid3 (xs ys zs : ℕ → V) : NcGrid :=
  .g3 (fun _ _ i => xs i) (fun _ j _ => ys j) (fun k _ _ => zs k)

/-- 2-D grid: `X[j,i] = xs i`, `Y[j,i] = ys j` -/
def meshgrid2 (xs ys : ℕ → V) : NcGrid :=
  .g2 (fun _ i => xs i) (fun j _ => ys j)

theorem coords_meshgrid3 (xs ys zs : ℕ → V) : (meshgrid3 xs ys zs).coords = (xs, ys, some zs) := rfl

theorem coords_meshgrid2 (xs ys : ℕ → V) : (meshgrid2 xs ys).coords = (xs, ys, none) := rfl

theorem coords_vectors (xs ys : ℕ → V) : (NcGrid.g1 xs ys).coords = (xs, ys, none) := rfl

/-- the stored coordinate variables are those of the first tower's first result -/
theorem stored_coords (n : V) (r : NcResult) (s : List NcResult) (rest : List (V × List NcResult)) (towers : List NcTower) :
    let ds := ncSave ((n, r :: s) :: rest) towers
    ds.x = r.grid.coords.1 ∧ ds.y = r.grid.coords.2.1 ∧ ds.z = r.grid.coords.2.2 :=
  ⟨rfl, rfl, rfl⟩

/-- **coordinates are lossless, 3-D**: for an outer-product grid the dataset holds `xs`, `ys`, `zs` and every
grid node `(k, j, i)` of the saved result is recovered from them - for any level vector `zs` (descending, repeated) -/
theorem coords_lossless_3d (n : V) (r : NcResult) (s : List NcResult) (rest : List (V × List NcResult)) (towers : List NcTower)
    (xs ys zs : ℕ → V) (hg : r.grid = meshgrid3 xs ys zs) :
    let ds := ncSave ((n, r :: s) :: rest) towers
    ds.x = xs ∧ ds.y = ys ∧ ds.z = some zs := by
  have h := stored_coords n r s rest towers
  rw [hg, coords_meshgrid3] at h
  exact h

/-- **coordinates are lossless, 2-D** (meshgrids or plain vectors): no `z` variable is written -/
theorem coords_lossless_2d (n : V) (r : NcResult) (s : List NcResult) (rest : List (V × List NcResult)) (towers : List NcTower)
    (xs ys : ℕ → V) (hg : r.grid = meshgrid2 xs ys ∨ r.grid = .g1 xs ys) :
    let ds := ncSave ((n, r :: s) :: rest) towers
    ds.x = xs ∧ ds.y = ys ∧ ds.z = none := by
  have h := stored_coords n r s rest towers
  rcases hg with hg | hg
  · rw [hg, coords_meshgrid2] at h
    exact h
  · rw [hg, coords_vectors] at h
    exact h

/-- the extraction picks the right axis of each array: on a grid whose arrays are not outer products the stored x is the
first row of the first level of `X` (not a column), the stored y the first column of `Y`, the stored z the corner column
of `Z` - the exact indices of `X[0, 0, :]`, `Y[0, :, 0]`, `Z[:, 0, 0]` -/
theorem coords_indices (X Y Z : ℕ → ℕ → ℕ → V) (i j k : ℕ) :
    (NcGrid.g3 X Y Z).coords.1 i = X 0 0 i ∧ (NcGrid.g3 X Y Z).coords.2.1 j = Y 0 j 0 ∧
    (NcGrid.g3 X Y Z).coords.2.2 = some (fun k => Z k 0 0) ∧ (fun k => Z k 0 0) k = Z k 0 0 :=
  ⟨rfl, rfl, rfl, rfl⟩

/-- dimension sizes: `tower` = number of result keys, `time` = length of the first tower's series (all series have
that length when they come from one driver call, C16) -/
theorem dims (n : V) (s : List NcResult) (rest : List (V × List NcResult)) (towers : List NcTower) :
    let ds := ncSave ((n, s) :: rest) towers
    ds.nTowers = rest.length + 1 ∧ ds.nTime = s.length ∧ ds.timeLabels.length = ds.nTime ∧ ds.towerLabels.length = ds.nTowers :=
  ⟨rfl, rfl, List.length_map _, List.length_map _⟩

/-- with rectangular results (every tower has `nTime` steps) every `(t, ti)` slot inside the dimensions is a saved
result's own array and none is left at the zero initialisation: the assembly is a bijection between slots and results -/
theorem slots_filled (results : List (V × List NcResult)) (towers : List NcTower) (T : ℕ)
    (hrect : ∀ p ∈ results, p.2.length = T) (ti t : ℕ) (hti : ti < (ncSave results towers).nTowers)
    (ht : t < (ncSave results towers).nTime) :
    ∃ (h1 : ti < results.length) (h2 : t < (results[ti]).2.length), ∀ c,
      (ncSave results towers).footprint t ti c = ((results[ti]).2[t]).flx c ∧
      (ncSave results towers).concentration t ti c = ((results[ti]).2[t]).conc c := by
  have h1 : ti < results.length := by
    unfold ncSave at hti
    exact hti
  have h2 : t < (results[ti]).2.length := by
    rw [hrect _ (List.getElem_mem h1)]
    cases results with
    | nil => cases h1
    | cons p rest =>
      have ht' : t < p.2.length := by
        unfold ncSave at ht
        exact ht
      exact hrect p List.mem_cons_self ▸ ht'
  exact ⟨h1, h2, roundtrip_fields results towers ti t h1 h2⟩

/-! non-vacuity: a 3-D grid with descending levels is stored in that order -/
example : (ncSave [(7, [{ NcResult.dflt with grid := meshgrid3 (fun i => 10 * i) (fun j => 10 * j + 1) (fun k => 300 - 100 * k) }])] []).z.map (fun f => (f 0, f 2))
    = some (300, 100) := rfl

end BLDFM.C18
