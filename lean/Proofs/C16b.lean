/-
  C16 (consumers) — "drivers iterate range(n_timesteps)": the time-series driver returns exactly one result per step,
  and the `i`-th result is the single run of step `i`, forced and labelled by step `i`'s own entries — never a
  neighbouring step's (what a driver that re-uses the previous result for a repeated forcing would return).  Every
  tower of the multi-tower driver likewise.
-/
import Proofs.C13
import Proofs.C14

open BLDFM

namespace BLDFM.C16

/-- the `i`-th result of the time series is the single run at step `i`, which exists and is labelled and forced by step `i`'s own entries -/
theorem timeseries_step_spec (dom : DomainCfg) (sol : SolverCfg) (met : MetCfg) (tower : TowerCfg) (flux cache : Option V)
    (n i : ℕ) (h : CommonLen met n) (hi : i < n) (hts : ∀ t, met.timestamps = some t → t.length = n) :
    (runTimeseries dom sol met tower flux cache).length = n ∧
    ∃ s c, met.getStep i = .ok s ∧ (runTimeseries dom sol met tower flux cache)[i]? = some (.ok c) ∧
      c.params = s ∧ c.timestamp = s.timestamp ∧ c.windSpeed = s.windSpeed ∧ c.windDir = s.windDir ∧ c.profMol = s.mol ∧
      (∀ t, met.timestamps = some t → ∃ x, t[i]? = some x ∧ c.timestamp = Sum.inl x) ∧
      (met.timestamps = none → c.timestamp = Sum.inr i) ∧
      (∀ xs, met.windDir = .list xs → c.windDir = xs[i]?) ∧ (∀ x, met.windDir = .scalar x → c.windDir = some x) ∧
      (∀ xs, met.windSpeed = .list xs → c.windSpeed = xs[i]?) ∧ (∀ x, met.windSpeed = .scalar x → c.windSpeed = some x) ∧
      (∀ xs, met.mol = .list xs → c.profMol = xs[i]?) ∧ (∀ x, met.mol = .scalar x → c.profMol = some x) := by
  have hn := nTimesteps_spec met n h
  obtain ⟨hser, hlen⟩ := C14.timeseries_eq_singles dom sol met tower flux cache
  obtain ⟨s, hs, -, -, hm1, hm2, hw1, hw2, hd1, hd2, -, ht1, ht2⟩ := getStep_spec met n i h hi hts
  obtain ⟨c, hc, hp⟩ := C13.runSingle_of_getStep dom sol tower flux cache hs
  obtain ⟨hws, hwd⟩ := hp.wind
  have hmol := hp.prof_grid.2.2.1
  obtain ⟨-, -, hstamp, hpar⟩ := hp.labels
  rw [← hstamp] at ht1 ht2
  rw [← hws] at hw1 hw2
  rw [← hwd] at hd1 hd2
  rw [← hmol] at hm1 hm2
  refine ⟨by rw [hlen, hn], s, c, hs, ?_, hpar, hstamp, hws, hwd, hmol, ht1, ht2, hd1, hd2, hw1, hw2, hm1, hm2⟩
  rw [hser]
  simp [hn, hi, hc]

/-- the same for every tower of the multi-tower driver: tower `k`'s series has one result per step -/
theorem multitower_series_length (dom : DomainCfg) (sol : SolverCfg) (met : MetCfg) (towers : List TowerCfg) (flux cache : Option V)
    (n : ℕ) (h : CommonLen met n) (k : ℕ) (hk : k < towers.length) :
    ∃ ser, (runMultitower dom sol met towers flux cache)[k]? = some (towers[k].name, ser) ∧ ser.length = n := by
  refine ⟨_, C14.multitower_eq_singles dom sol met towers flux cache k hk, ?_⟩
  rw [(C14.timeseries_eq_singles dom sol met towers[k] flux cache).2, nTimesteps_spec met n h]

/-! non-vacuity: the hypotheses of `timeseries_step_spec` hold for a series whose wind direction repeats (270, 270, 200) -/
example : ∃ m : MetCfg, CommonLen m 3 ∧ (∀ t, m.timestamps = some t → t.length = 3) ∧ m.windDir = .list [270, 270, 200] := by
  exact ⟨⟨.scalar 3, .scalar (-100), .scalar 5, .list [270, 270, 200], none, none⟩, (commonLen_iff _ _).2 (by decide), nofun, rfl⟩

end BLDFM.C16
