/-
  C07 (whole model pipeline) — mirroring in x: source mirrored (`q'[j, i] = q[j, nx-1-i]`), `u ↦ -u`.
  Component form (every retained component that has a partner of opposite x-frequency, i.e. every component apart
  from the Nyquist one): the coefficient of the mirrored run at slot `(a, b)` is the coefficient of the original run
  at the partner slot `(a, b̄)` times the flip phase `ω_x^{f(b)}`.  Field form (`mirrorX_field`): when every slot
  has a partner (odd retained-mode count, i.e. a clamped odd padded grid) both padded-domain fields are mirrored,
  `field'[J, I] = field[J, Nx-1-I]`.  Dispersion mode, un-centred output.
-/
import Proofs.C02
import Proofs.C06
import Proofs.C07
import Proofs.Lemmas.Witness

open BLDFM BLDFM.Spec BLDFM.Index

namespace BLDFM.C07

/-- `r'` is the x-mirror image of `r` -/
def MirroredX (r r' : SolveReq ℝ) : Prop :=
  r' = { r with q := fun j i => r.q j (r.nx - 1 - i), P := mirrorX r.P }

/-- the partner slot of opposite signed frequency (every slot but the Nyquist one has one) -/
theorem sfreq_partner (nl b : ℕ) (hb : b < nl) (hny : 2 * b ≠ nl) :
    (nl - b) % nl < nl ∧ sfreq nl ((nl - b) % nl) = -sfreq nl b :=
  ⟨partner_lt hb, sfreq_of_partner hb hny⟩

section
variable {r r' : SolveReq ℝ} (h : MirroredX r r')
include h

theorem mx_geom : geom RC r' = geom RC r := by
  rw [show r' = _ from h]
  rfl

theorem mx_padSrc (J I : ℕ) (hI : I < (geom RC r).nxe) :
    padSrc RC r' (geom RC r) J I = padSrc RC r (geom RC r) J ((geom RC r).nxe - 1 - I) := by
  have hN := C11.geom_nxe r
  rw [show r' = _ from h]
  unfold padSrc
  dsimp only
  refine if_ctx_congr (by omega) (fun hw => ?_) (fun _ => rfl)
  congr 2
  omega

/-- source spectrum: slot `(a, b)` of the mirrored request is the partner slot of the original times `ω_x^{f(b)}` -/
theorem mx_srcSpectrum (hg : GeomOK (geom RC r)) (hfp : r.footprint = false) (a b bb : ℕ)
    (ha : a < (geom RC r).nly) (hb : b < (geom RC r).nlx) (hbb : bb < (geom RC r).nlx)
    (hf : sfreq (geom RC r).nlx bb = -sfreq (geom RC r).nlx b) :
    (srcSpectrum RC r' (geom RC r)).get a b =
      rootPow (geom RC r).nxe (sfreq (geom RC r).nlx b) * (srcSpectrum RC r (geom RC r)).get a bb := by
  rw [C02.srcSpectrum_fwd r' hg ((congrArg (·.footprint) h).trans hfp) a b ha hb,
    C02.srcSpectrum_fwd r hg hfp a bb ha hbb, hf, ← mul_div_assoc, ← fwd_const_mul]
  refine congrArg (· / _) (fwd_congr (fun J _ => ?_) _)
  rw [← fwd_reflect hg.Nx_pos]
  exact fwd_congr (fun I hI => mx_padSrc h J I hI) _

/-- mirror in x, component form: the coefficient pair of the mirrored run at `(a, b)` is the coefficient pair of the
original run at the partner slot `(a, b̄)` times the flip phase `ω_x^{f(b)}` -/
theorem mirrorX_component (hg : GeomOK (geom RC r)) (hp : r.precision = .double) (hden : C02.DenOK r)
    (hfp : r.footprint = false) (l a b bb : ℕ)
    (ha : a < (geom RC r).nly) (hb : b < (geom RC r).nlx) (hbb : bb < (geom RC r).nlx)
    (hf : sfreq (geom RC r).nlx bb = -sfreq (geom RC r).nlx b) :
    modeCoef RC r' (geom RC r) (srcSpectrum RC r' (geom RC r)).get l a b =
      (rootPow (geom RC r).nxe (sfreq (geom RC r).nlx b) * (modeCoef RC r (geom RC r) (srcSpectrum RC r (geom RC r)).get l a bb).1,
       rootPow (geom RC r).nxe (sfreq (geom RC r).nlx b) * (modeCoef RC r (geom RC r) (srcSpectrum RC r (geom RC r)).get l a bb).2) := by
  have hb0 : b = 0 ↔ bb = 0 := eq_zero_iff_of_sfreq_neg hb hbb hf
  have hS : (srcSpectrum RC r' (geom RC r)).get a b =
      rootPow (geom RC r).nxe (sfreq (geom RC r).nlx b) * (srcSpectrum RC r (geom RC r)).get a bb :=
    mx_srcSpectrum h hg hfp a b bb ha hb hbb hf
  have han : r'.analytic = r.analytic := congrArg (·.analytic) h
  have hnz : r'.nz = r.nz := congrArg (·.nz) h
  have hz : r'.z = r.z := congrArg (·.z) h
  have hK : r'.P.Kz = r.P.Kz := congrArg (·.P.Kz) h
  have hbg : r'.bg = r.bg := congrArg (·.bg) h
  refine modeCoef_congr (han := han) (hnz := hnz) (hz := hz) (hK := hK) (hbg := hbg) (h0 := and_congr_right fun _ => hb0)
    (hT := fun i => ?_) (hS := hS) (hχ := fun h0 => ?_) l
  · rw [show r'.P = mirrorX r.P from congrArg (·.P) h, waveX_neg _ hb hbb hf]
    exact Tcoef_mirrorX _ _ _ i
  · rw [hb0.mpr h0.2, sfreq_zero (by omega), rootPow_zero]

/-- mirror in x, field form: when every retained x-slot has a partner (odd retained-mode count) both padded-domain
fields of the mirrored request are the mirrored fields.  Dispersion mode with the measurement point at the origin. -/
theorem mirrorX_field (hg : GeomOK (geom RC r)) (hp : r.precision = .double) (hden : C02.DenOK r)
    (hfp : r.footprint = false) (hxm : r.xm = 0) (hym : r.ym = 0) (hodd : (geom RC r).nlx % 2 = 1)
    (l J I : ℕ) (hI : I < (geom RC r).nxe) :
    (fieldsAt RC r' (geom RC r') (srcSpectrum RC r' (geom RC r')).get l).1.get J I
      = (fieldsAt RC r (geom RC r) (srcSpectrum RC r (geom RC r)).get l).1.get J ((geom RC r).nxe - 1 - I) ∧
    (fieldsAt RC r' (geom RC r') (srcSpectrum RC r' (geom RC r')).get l).2.get J I
      = (fieldsAt RC r (geom RC r) (srcSpectrum RC r (geom RC r)).get l).2.get J ((geom RC r).nxe - 1 - I) := by
  rw [mx_geom h]
  refine Prod.mk.inj ?_
  rw [fieldsAt_trig r' _ hg, fieldsAt_trig r _ hg, show r'.footprint = r.footprint from congrArg (·.footprint) h]
  refine trig_mirrorX hg.Ny_pos hg.Nx_pos hodd (fun a ha b hb => ?_) J hI
  have hbb := partner_lt hb
  have hf := sfreq_partner_of_odd hodd hb
  have hfp' : r'.footprint = false := (congrArg (·.footprint) h).trans hfp
  have hxm' : r'.xm = 0 := (congrArg (·.xm) h).trans hxm
  have hym' : r'.ym = 0 := (congrArg (·.ym) h).trans hym
  have sh1' : shiftFactor RC r' (geom RC r) a b = 1 := C06.recentre_guard_origin r' hfp' hxm' hym' a b
  have sh1 : shiftFactor RC r (geom RC r) a (partner (geom RC r).nlx b) = 1 := C06.recentre_guard_origin r hfp hxm hym a _
  rw [coefTab, coefTab, mirrorX_component h hg hp hden hfp l a b (partner _ b) ha hb hbb hf, sh1', sh1, one_smul, one_smul, hfp,
    sgnZ_false, one_mul]
  -- `mirrorX_component` states the scalar multiple `ω • (p, q)` as the pair `(ω p, ω q)`
  rfl

end

/-! non-vacuity: a clamped odd grid (5 columns, 6 modes requested → 5 retained), tower at the origin -/
example : ∃ r r' : SolveReq ℝ, MirroredX r r' ∧ GeomOK (geom RC r) ∧ r.precision = .double ∧ C02.DenOK r ∧
    r.footprint = false ∧ r.xm = 0 ∧ r.ym = 0 ∧ (geom RC r).nlx % 2 = 1 := by
  refine ⟨{ Witness.wreq false with nlx := 6, xm := 0, ym := 0 }, _, rfl, ?_, rfl, ?_, rfl, rfl, rfl, ?_⟩
  · exact GeomOK.of_request _ (by decide) (by decide) (by decide) (by decide) (by decide) (by decide)
  · exact fun hh => absurd hh (by decide)
  · rw [C11.geom_no_halo rfl]
    simp [clampModes, Witness.wreq]

end BLDFM.C07
