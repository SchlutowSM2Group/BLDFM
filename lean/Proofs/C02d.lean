/-
  C02 at the level of the public helpers: `point_measurement(srf_flx, footprint)` — the plain sum over the user's
  (un-padded) grid of source × returned footprint — equals the flux the dispersion run returns at the tower cell, for
  every halo (the halo cells carry no source), level, truncation, parity, profile set, numeric and analytic.
-/
import Proofs.C02c
import Proofs.C11
import Proofs.C13b

open BLDFM BLDFM.Spec BLDFM.Index

namespace BLDFM.C02

/-- a sum over the padded range of a summand that vanishes outside the window `[p, p+n)` -/
theorem sum_window (N p n : ℕ) (hN : N = n + 2 * p) (h : ℕ → ℝ) (hz : ∀ J, ¬(p ≤ J ∧ J < p + n) → h J = 0) :
    ∑ J ∈ Finset.range N, h J = ∑ j ∈ Finset.range n, h (j + p) := by
  have hsub : Finset.Ico p (p + n) ⊆ Finset.range N := fun J hJ => by
    have := Finset.mem_Ico.mp hJ
    exact Finset.mem_range.mpr (by omega)
  have hout : ∀ J ∈ Finset.range N, J ∉ Finset.Ico p (p + n) → h J = 0 :=
    fun J _ hJ => hz J fun hw => hJ (Finset.mem_Ico.mpr hw)
  rw [← Finset.sum_subset hsub hout, Finset.sum_Ico_eq_sum_range, Nat.add_sub_cancel_left]
  exact Finset.sum_congr rfl fun j _ => by rw [add_comm]

/-- the padded weighted sum is the sum over the user's grid -/
theorem padded_sum_eq_user_sum (r : SolveReq ℝ) (G : ℕ → ℕ → ℝ) :
    ∑ J ∈ Finset.range (geom RC r).nye, ∑ I ∈ Finset.range (geom RC r).nxe, (padSrc RC r (geom RC r) J I).re * G J I
      = pointMeasurement r.ny r.nx r.q (fun j i => G (j + (geom RC r).py) (i + (geom RC r).px)) := by
  rw [C13.pointMeasurement_eq_sum]
  simp only [padSrc_RC, Complex.ofReal_re]
  set g := geom RC r
  rw [sum_window g.nye g.py r.ny (C11.geom_nye r)]
  · refine Finset.sum_congr rfl fun j hj => ?_
    rw [sum_window g.nxe g.px r.nx (C11.geom_nxe r)]
    · refine Finset.sum_congr rfl fun i hi => ?_
      have hj' := Finset.mem_range.mp hj
      have hi' := Finset.mem_range.mp hi
      rw [if_pos ⟨by omega, by omega, by omega, by omega⟩, Nat.add_sub_cancel, Nat.add_sub_cancel]
    · intro I hI
      rw [if_neg fun hh => hI ⟨hh.2.2.1, hh.2.2.2⟩, zero_mul]
  · intro J hJ
    exact Finset.sum_eq_zero fun I _ => by rw [if_neg fun hh => hJ ⟨hh.1, hh.2.1⟩, zero_mul]

/-- `point_measurement` of the source against the real part of a padded-domain field, cropped to the user's grid,
is the real part of the padded weighted sum (the source is real and vanishes on the halo) -/
theorem pointMeasurement_padded (r : SolveReq ℝ) (G : ℕ → ℕ → ℂ) :
    pointMeasurement r.ny r.nx r.q (fun j i => (G (j + (geom RC r).py) (i + (geom RC r).px)).re)
      = (∑ J ∈ Finset.range (geom RC r).nye, ∑ I ∈ Finset.range (geom RC r).nxe, padSrc RC r (geom RC r) J I * G J I).re := by
  rw [← padded_sum_eq_user_sum r (fun J I => (G J I).re)]
  simp only [Complex.re_sum, padSrc_RC, Complex.re_ofReal_mul, Complex.ofReal_re]

/-- reciprocity through the public helpers: `point_measurement(srf_flx, flx_footprint[k]) = flx_dispersion[k][jm, im]` -/
theorem point_measurement_reciprocity (rd : SolveReq ℝ) (hg : GeomOK (geom RC rd)) (hp : rd.precision = .double)
    (hden : DenOK rd) (hfp : rd.footprint = false) (hxm : rd.xm = 0) (hym : rd.ym = 0) (im jm k : ℕ)
    (hdx : (geom RC rd).dx ≠ 0) (hdy : (geom RC rd).dy ≠ 0) :
    let g := geom RC rd
    let rf : SolveReq ℝ := { rd with footprint := true, xm := im * g.dx, ym := jm * g.dy }
    pointMeasurement rd.ny rd.nx rd.q (fun j i => (solveOk RC rf).flx k j i) = (solveOk RC rd).flx k jm im := by
  intro g rf
  have h := pointMeasurement_padded rd (fun J I => (fieldsAt RC rf g (srcSpectrum RC rf g).get (rd.levels.toArray.getD k 0)).2.get J I)
  rw [footprint_reciprocity_flux rd hg hfp hxm hym im jm _ hdx hdy] at h
  simp only [solveOk, Tab1.get_tab, RC_re]
  exact h

/-- … and for the concentration above background:
`point_measurement(srf_flx, conc_footprint[k] − bg) = conc_dispersion[k][jm, im] − bg` -/
theorem point_measurement_reciprocity_conc (rd : SolveReq ℝ) (hg : GeomOK (geom RC rd)) (hp : rd.precision = .double)
    (hden : DenOK rd) (hfp : rd.footprint = false) (hxm : rd.xm = 0) (hym : rd.ym = 0) (im jm k : ℕ)
    (hdx : (geom RC rd).dx ≠ 0) (hdy : (geom RC rd).dy ≠ 0) :
    let g := geom RC rd
    let rf : SolveReq ℝ := { rd with footprint := true, xm := im * g.dx, ym := jm * g.dy }
    pointMeasurement rd.ny rd.nx rd.q (fun j i => (solveOk RC rf).conc k j i - rd.bg) = (solveOk RC rd).conc k jm im - rd.bg := by
  intro g rf
  have h := pointMeasurement_padded rd
    (fun J I => (fieldsAt RC rf g (srcSpectrum RC rf g).get (rd.levels.toArray.getD k 0)).1.get J I - (rd.bg : ℂ))
  rw [footprint_reciprocity_conc rd hg hp hden hfp hxm hym im jm _ hdx hdy] at h
  simp only [Complex.sub_re, Complex.ofReal_re] at h
  simp only [solveOk, Tab1.get_tab, RC_re]
  exact h

end BLDFM.C02
