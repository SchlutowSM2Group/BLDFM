/-
  C20 — the fourth geometric base function: `source_area_sector` is minus the unsigned angle between a cell's displacement
  from the tower and the upwind direction.  With `z = (x - x_m) + i (y - y_m)` and `w = -u - i v` (the upwind vector) the
  implemented `-|arctan2(sin θ, cos θ)|`, `θ = arctan2(y - y_m, x - x_m) - arctan2(-v, -u)`, equals `-|arg(z / w)|` — the
  re-wrapping by `arctan2(sin, cos)` is the principal argument of the quotient.  Hence the value lies in `[-π, 0]`, vanishes
  exactly on the upwind ray and does not change under positive rescalings of `z` and `w`: the contours are rays from the
  tower, i.e. pie-slice sectors about the upwind axis.
-/
import Proofs.C20
import Mathlib.Analysis.SpecialFunctions.Complex.Arg

open BLDFM BLDFM.Spec

namespace BLDFM.C20

/-- re-wrapping a difference of arguments by `arctan2(sin, cos)` gives the argument of the quotient -/
theorem arg_cos_sin_sub {z w : ℂ} (hz : z ≠ 0) (hw : w ≠ 0) :
    Complex.arg ⟨Real.cos (z.arg - w.arg), Real.sin (z.arg - w.arg)⟩ = Complex.arg (z / w) := by
  -- in `Real.Angle` the argument of a quotient is the difference of the arguments, exactly
  have hq : ((z / w).arg : Real.Angle) = ((z.arg - w.arg : ℝ) : Real.Angle) :=
    (Complex.arg_div_coe_angle hz hw).trans (Real.Angle.coe_sub _ _).symm
  rw [← Complex.arg_coe_angle_eq_iff, hq, Complex.mk_eq_add_mul_I, ← Real.Angle.cos_coe, ← Real.Angle.sin_coe,
    Complex.arg_cos_add_sin_mul_I_coe_angle]

/-- **the sector base function is minus the unsigned angle between the displacement and the upwind vector** -/
theorem sector_is_neg_angle (x y xm ym u v : ℝ) (hz : (⟨x - xm, y - ym⟩ : ℂ) ≠ 0) (hw : (⟨-u, -v⟩ : ℂ) ≠ 0) :
    baseSector RC x y xm ym u v = -|Complex.arg ((⟨x - xm, y - ym⟩ : ℂ) / ⟨-u, -v⟩)| := by
  rw [baseSector, RC_arctan2, RC_arctan2, RC_arctan2, RC_sin, RC_cos, arg_cos_sin_sub hz hw, neg_inj,
    show (0.0 : ℝ) = 0 by norm_num]
  split_ifs with hneg
  · rw [abs_of_neg hneg]
  · rw [abs_of_nonneg (not_lt.1 hneg)]

theorem sector_range (x y xm ym u v : ℝ) (hz : (⟨x - xm, y - ym⟩ : ℂ) ≠ 0) (hw : (⟨-u, -v⟩ : ℂ) ≠ 0) :
    -Real.pi ≤ baseSector RC x y xm ym u v ∧ baseSector RC x y xm ym u v ≤ 0 := by
  rw [sector_is_neg_angle x y xm ym u v hz hw]
  exact ⟨neg_le_neg (Complex.abs_arg_le_pi _), neg_nonpos.2 (abs_nonneg _)⟩

/-- the value is zero exactly on the upwind ray: the quotient of displacement and upwind vector is a positive real -/
theorem sector_zero_iff (x y xm ym u v : ℝ) (hz : (⟨x - xm, y - ym⟩ : ℂ) ≠ 0) (hw : (⟨-u, -v⟩ : ℂ) ≠ 0) :
    baseSector RC x y xm ym u v = 0 ↔
      0 ≤ (((⟨x - xm, y - ym⟩ : ℂ) / ⟨-u, -v⟩)).re ∧ (((⟨x - xm, y - ym⟩ : ℂ) / ⟨-u, -v⟩)).im = 0 := by
  rw [sector_is_neg_angle x y xm ym u v hz hw, neg_eq_zero, abs_eq_zero, Complex.arg_eq_zero_iff]

/-- the value depends neither on the wind speed nor on the distance from the tower: contours are rays from the tower -/
theorem sector_scale_invariant (x y xm ym u v a b : ℝ) (ha : 0 < a) (hb : 0 < b)
    (hz : (⟨x - xm, y - ym⟩ : ℂ) ≠ 0) (hw : (⟨-u, -v⟩ : ℂ) ≠ 0) :
    baseSector RC (xm + a * (x - xm)) (ym + a * (y - ym)) xm ym (b * u) (b * v) = baseSector RC x y xm ym u v := by
  have e1 : (⟨xm + a * (x - xm) - xm, ym + a * (y - ym) - ym⟩ : ℂ) = (a : ℂ) * ⟨x - xm, y - ym⟩ := by
    apply Complex.ext <;> simp
  have e2 : (⟨-(b * u), -(b * v)⟩ : ℂ) = (b : ℂ) * ⟨-u, -v⟩ := by
    apply Complex.ext <;> simp
  have hz2 : (⟨xm + a * (x - xm) - xm, ym + a * (y - ym) - ym⟩ : ℂ) ≠ 0 :=
    e1 ▸ mul_ne_zero (Complex.ofReal_ne_zero.2 ha.ne') hz
  have hw2 : (⟨-(b * u), -(b * v)⟩ : ℂ) ≠ 0 := e2 ▸ mul_ne_zero (Complex.ofReal_ne_zero.2 hb.ne') hw
  rw [sector_is_neg_angle _ _ xm ym (b * u) (b * v) hz2 hw2, sector_is_neg_angle x y xm ym u v hz hw, e1, e2,
    mul_div_mul_comm, ← Complex.ofReal_div, Complex.arg_real_mul _ (div_pos ha hb)]

/-! a cell due west of the tower under a westerly wind (`u > 0`, so upwind is `-x`) lies on the upwind ray -/
example : baseSector RC (-3) 0 0 0 2 0 = 0 := by
  rw [sector_zero_iff _ _ _ _ _ _ (by simp [Complex.ext_iff]) (by simp [Complex.ext_iff])]
  norm_num [Complex.div_re, Complex.div_im]

end BLDFM.C20
