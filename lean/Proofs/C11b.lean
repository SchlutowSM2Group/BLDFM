/-
  C11 (low-pass clause, coefficient level through the whole model pipeline) — two requests that differ only in
  the retained-mode counts attach the same spectral coefficient (and the same shift factor) to every signed
  frequency pair that both retain.  With `solver_repr` (the field is the trigonometric sum over the retained signed
  frequencies) this is: retaining fewer modes removes components at or beyond the cut-off and leaves every
  component strictly inside it unchanged.
-/
import Proofs.C02
import Proofs.Lemmas.Witness

open BLDFM BLDFM.Spec BLDFM.Index

namespace BLDFM.C11

/-- two requests that differ only in the retained-mode counts -/
def SameButModes (r r' : SolveReq ℝ) : Prop :=
  r' = { r with nlx := r'.nlx, nly := r'.nly }

/-- low-pass: same signed frequency ⇒ same source coefficient, same spectral coefficients at every level, same
shift factor — in both modes, numeric and analytic, for every halo, parity and profile set -/
theorem lowpass_coef (r r' : SolveReq ℝ) (h : SameButModes r r')
    (hg : GeomOK (geom RC r)) (hg' : GeomOK (geom RC r'))
    (l a b a' b' : ℕ) (ha : a < (geom RC r).nly) (hb : b < (geom RC r).nlx)
    (ha' : a' < (geom RC r').nly) (hb' : b' < (geom RC r').nlx)
    (hfa : sfreq (geom RC r).nly a = sfreq (geom RC r').nly a')
    (hfb : sfreq (geom RC r).nlx b = sfreq (geom RC r').nlx b') :
    (srcSpectrum RC r (geom RC r)).get a b = (srcSpectrum RC r' (geom RC r')).get a' b' ∧
    modeCoef RC r (geom RC r) (srcSpectrum RC r (geom RC r)).get l a b
      = modeCoef RC r' (geom RC r') (srcSpectrum RC r' (geom RC r')).get l a' b' ∧
    shiftFactor RC r (geom RC r) a b = shiftFactor RC r' (geom RC r') a' b' := by
  -- everything but the mode counts is shared: `r'` is `r` with two fields replaced, the rest holds by `rfl`
  obtain ⟨n1, n2, rfl⟩ : ∃ n1 n2, r' = { r with nlx := n1, nly := n2 } := ⟨_, _, h⟩
  set r' : SolveReq ℝ := { r with nlx := n1, nly := n2 }
  have wx : waveX RC (geom RC r) b = waveX RC (geom RC r') b' := by
    rw [waveX_eq _ hb, waveX_eq _ hb', hfb]
    rfl
  have wy : waveY RC (geom RC r) a = waveY RC (geom RC r') a' := by
    rw [waveY_eq _ ha, waveY_eq _ ha', hfa]
    rfl
  have hdc : (a = 0 ∧ b = 0) ↔ (a' = 0 ∧ b' = 0) := by
    rw [← sfreq_eq_zero_iff ha, ← sfreq_eq_zero_iff hb, ← sfreq_eq_zero_iff ha', ← sfreq_eq_zero_iff hb', hfa, hfb]
  have hS : (srcSpectrum RC r (geom RC r)).get a b = (srcSpectrum RC r' (geom RC r')).get a' b' := by
    cases hfp : r.footprint
    · rw [C02.srcSpectrum_fwd r hg hfp a b ha hb, C02.srcSpectrum_fwd r' hg' hfp a' b' ha' hb', hfa, hfb]
      rfl
    · rw [C03.footprint_unit_spectrum r hfp, C03.footprint_unit_spectrum r' hfp]
      rfl
  refine ⟨hS, ?_, ?_⟩
  · have hT : ∀ i, Tcoef RC r.P (waveX RC (geom RC r) b) (waveY RC (geom RC r) a) i =
        Tcoef RC r'.P (waveX RC (geom RC r') b') (waveY RC (geom RC r') a') i := fun i => by
      rw [wx, wy]
    have hS1 : (srcSpectrum RC r (geom RC r)).get a b = 1 * (srcSpectrum RC r' (geom RC r')).get a' b' := by
      rw [hS, one_mul]
    exact (modeCoef_congr (han := rfl) (hnz := rfl) (hz := rfl) (hK := rfl) (hbg := rfl) (h0 := hdc) (hT := hT) (hS := hS1)
      (hχ := fun _ => rfl) l).trans (one_smul _ _)
  · unfold shiftFactor
    rw [wx, wy]
    rfl

/-- every signed frequency of a smaller truncation is a signed frequency of the larger one.  The proof does not use
`hev`: the range of `sfreq nl'` lies inside that of `sfreq nl` as soon as `nl' ≤ nl`, whatever the parities. -/
theorem sfreq_embed (nl nl' a' : ℕ) (hle : nl' ≤ nl) (hev : nl' % 2 = 0 ∨ nl' = nl) (ha' : a' < nl') :
    ∃ a, a < nl ∧ sfreq nl a = sfreq nl' a' := by
  obtain ⟨h1, h2⟩ := sfreq_bounds ha'
  exact exists_sfreq (by omega) (by omega)

/-- low-pass, component form: every spectral component of the run with fewer modes is a component of the run
with more modes — same signed frequencies, same coefficients at every level, same shift factor.  By `solver_repr`
the two fields therefore differ exactly by the components whose frequency the smaller run does not retain.
`hex` and `hey` only feed the hypothesis `hev` of `sfreq_embed`, which its proof does not use. -/
theorem lowpass_component (r r' : SolveReq ℝ) (h : SameButModes r r')
    (hg : GeomOK (geom RC r)) (hg' : GeomOK (geom RC r'))
    (hlx : (geom RC r').nlx ≤ (geom RC r).nlx) (hly : (geom RC r').nly ≤ (geom RC r).nly)
    (hex : (geom RC r').nlx % 2 = 0 ∨ (geom RC r').nlx = (geom RC r).nlx)
    (hey : (geom RC r').nly % 2 = 0 ∨ (geom RC r').nly = (geom RC r).nly)
    (l a' b' : ℕ) (ha' : a' < (geom RC r').nly) (hb' : b' < (geom RC r').nlx) :
    ∃ a b, a < (geom RC r).nly ∧ b < (geom RC r).nlx ∧
      sfreq (geom RC r).nly a = sfreq (geom RC r').nly a' ∧ sfreq (geom RC r).nlx b = sfreq (geom RC r').nlx b' ∧
      modeCoef RC r (geom RC r) (srcSpectrum RC r (geom RC r)).get l a b
        = modeCoef RC r' (geom RC r') (srcSpectrum RC r' (geom RC r')).get l a' b' ∧
      shiftFactor RC r (geom RC r) a b = shiftFactor RC r' (geom RC r') a' b' := by
  obtain ⟨a, ha, hfa⟩ := sfreq_embed _ _ a' hly hey ha'
  obtain ⟨b, hb, hfb⟩ := sfreq_embed _ _ b' hlx hex hb'
  obtain ⟨_, h2, h3⟩ := lowpass_coef r r' h hg hg' l a b a' b' ha hb ha' hb' hfa hfb
  exact ⟨a, b, ha, hb, hfa, hfb, h2, h3⟩

/-! non-vacuity: the witness with 4 × 4 against 2 × 2 requested modes satisfies the hypotheses of `lowpass_component` -/

example : ∃ r r' : SolveReq ℝ, SameButModes r r' ∧ GeomOK (geom RC r) ∧ GeomOK (geom RC r') ∧
    (geom RC r').nlx ≤ (geom RC r).nlx ∧ (geom RC r').nly ≤ (geom RC r).nly ∧
    ((geom RC r').nlx % 2 = 0 ∨ (geom RC r').nlx = (geom RC r).nlx) ∧
    ((geom RC r').nly % 2 = 0 ∨ (geom RC r').nly = (geom RC r).nly) := by
  refine ⟨{ Witness.wreq false with nlx := 4, nly := 4 }, Witness.wreq false, rfl, ?_, Witness.wreq_geomOK false, ?_⟩
  · exact GeomOK.of_request _ (by decide) (by decide) (by decide) (by decide) (by decide) (by decide)
  · rw [Witness.wreq_geom, geom_no_halo rfl]
    decide

end BLDFM.C11
