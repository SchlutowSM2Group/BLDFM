/-
  C06 — horizontal translation equivariance (phase level): moving the tower by whole
  cells multiplies every spectral coefficient by the root-of-unity power of its own
  signed frequency (the DFT shift factor); the footprint phase places an on-grid tower
  at its padded-grid cell; a zero measurement point leaves dispersion output unshifted.
-/
import Proofs.Lemmas.Phase

open BLDFM BLDFM.Spec

namespace BLDFM.C06

theorem phase_cells (g : Geom ℝ) (a b : ℕ) (ha : a < g.nly) (hb : b < g.nlx) (hdx : g.dx ≠ 0) (hdy : g.dy ≠ 0)
    (hNx : 0 < g.nxe) (hNy : 0 < g.nye) (cx cy : ℤ) :
    Complex.exp (Complex.I * ↑(waveX RC g b * (cx * g.dx) + waveY RC g a * (cy * g.dy)))
      = rootPow g.nxe (sfreq g.nlx b * cx) * rootPow g.nye (sfreq g.nly a * cy) := by
  rw [waveX_cells g b cx hb hdx hNx, waveY_cells g a cy ha hdy hNy]
  simp only [rootPow, ← Complex.exp_add]
  congr 1
  push_cast
  ring

/-- footprint mode, on-grid tower `(im·dx, jm·dy)`: the phase of slot `(a, b)` is
`ω_x^{f(b)(im+px)} · ω_y^{f(a)(jm+py)}` — the tower's cell on the padded grid -/
theorem footprint_phase_on_grid (req : SolveReq ℝ) (hfp : req.footprint = true) {g : Geom ℝ} (a b im jm : ℕ)
    (hxm : req.xm = im * g.dx) (hym : req.ym = jm * g.dy) (ha : a < g.nly) (hb : b < g.nlx)
    (hdx : g.dx ≠ 0) (hdy : g.dy ≠ 0) (hNx : 0 < g.nxe) (hNy : 0 < g.nye) :
    shiftFactor RC req g a b =
      rootPow g.nxe (sfreq g.nlx b * ((im + g.px : ℕ) : ℤ)) * rootPow g.nye (sfreq g.nly a * ((jm + g.py : ℕ) : ℤ)) := by
  rw [shiftFactor_RC, if_pos hfp]
  rw [hxm, hym, ← phase_cells g a b ha hb hdx hdy hNx hNy]
  congr 3
  push_cast
  ring

/-- tower shift: moving the measurement point by `(cx, cy)` whole cells multiplies slot
`(a, b)` by `ω_x^{f(b) cx} ω_y^{f(a) cy}`, which is the DFT shift factor of a roll by
`(cy, cx)` cells -/
theorem tower_shift_phase (req : SolveReq ℝ) (hfp : req.footprint = true) (a b : ℕ) (cx cy : ℤ)
    (ha : a < (geom RC req).nly) (hb : b < (geom RC req).nlx)
    (hdx : (geom RC req).dx ≠ 0) (hdy : (geom RC req).dy ≠ 0)
    (hNx : 0 < (geom RC req).nxe) (hNy : 0 < (geom RC req).nye) :
    let g := geom RC req
    let req' : SolveReq ℝ := { req with xm := req.xm + cx * g.dx, ym := req.ym + cy * g.dy }
    shiftFactor RC req' (geom RC req') a b =
      shiftFactor RC req g a b * (rootPow g.nxe (sfreq g.nlx b * cx) * rootPow g.nye (sfreq g.nly a * cy)) := by
  intro g req'
  have hfp' : req'.footprint = true := hfp
  rw [show geom RC req' = g from rfl]
  rw [shiftFactor_RC, if_pos hfp', shiftFactor_RC, if_pos hfp]
  rw [← phase_cells g a b ha hb hdx hdy hNx hNy]
  rw [← Complex.exp_add, ← mul_add, ← Complex.ofReal_add]
  congr 3
  show waveX RC g b * (req.xm + cx * g.dx + g.px * g.dx) + waveY RC g a * (req.ym + cy * g.dy + g.py * g.dy) = _
  ring

/-- dispersion mode: with the measurement point at the origin the output is not shifted
(the guard `xm² + ym² > 0` is part of the model) -/
theorem recentre_guard_origin (req : SolveReq ℝ) (hfp : req.footprint = false)
    (hx : req.xm = 0) (hy : req.ym = 0) {g : Geom ℝ} (a b : ℕ) :
    shiftFactor RC req g a b = 1 := by
  have hguard : ¬(0 : ℝ) < 0 ^ 2 + 0 ^ 2 := by norm_num
  rw [shiftFactor_RC, hfp, if_neg Bool.false_ne_true]
  rw [hx, hy, if_neg hguard]

/-- dispersion mode, on-grid point, even grid: the re-centring phase is the shift factor
that moves cell `(jm, im)` to the centre `(ny/2, nx/2)` -/
theorem recentre_phase (req : SolveReq ℝ) (hfp : req.footprint = false) (a b im jm : ℕ)
    (hpos : 0 < req.xm ^ 2 + req.ym ^ 2)
    (hxm : req.xm = im * (geom RC req).dx) (hym : req.ym = jm * (geom RC req).dy)
    (hxmx : req.xmx = req.nx * (geom RC req).dx) (hymx : req.ymx = req.ny * (geom RC req).dy)
    (hex : req.nx % 2 = 0) (hey : req.ny % 2 = 0)
    (ha : a < (geom RC req).nly) (hb : b < (geom RC req).nlx)
    (hdx : (geom RC req).dx ≠ 0) (hdy : (geom RC req).dy ≠ 0)
    (hNx : 0 < (geom RC req).nxe) (hNy : 0 < (geom RC req).nye) :
    let g := geom RC req
    shiftFactor RC req g a b =
      rootPow g.nxe (sfreq g.nlx b * ((im : ℤ) - (req.nx / 2 : ℕ))) * rootPow g.nye (sfreq g.nly a * ((jm : ℤ) - (req.ny / 2 : ℕ))) := by
  intro g
  -- half the domain extent is `n / 2` whole cells
  have half : ∀ (m n : ℕ) (d : ℝ), n % 2 = 0 → (m : ℝ) * d - n * d / 2 = (((m : ℤ) - (n / 2 : ℕ) : ℤ) : ℝ) * d := by
    intro m n d hn
    rw [Int.cast_sub, Int.cast_natCast, Int.cast_natCast, Nat.cast_div_charZero (Nat.dvd_of_mod_eq_zero hn), Nat.cast_ofNat]
    ring
  rw [shiftFactor_RC, hfp, if_neg Bool.false_ne_true, if_pos hpos]
  rw [← phase_cells g a b ha hb hdx hdy hNx hNy]
  rw [← half im _ _ hex, ← half jm _ _ hey, ← hxm, ← hym, ← hxmx, ← hymx]

end BLDFM.C06
