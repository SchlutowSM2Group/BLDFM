/-
  C07 — the per-mode transfer function respects the PDE's symmetries:
  x-mirror, y-mirror, axis swap, length similarity, velocity similarity.
-/
import Proofs.Lemmas.Mode

open BLDFM BLDFM.Spec

namespace BLDFM.C07

def mirrorX (P : Profiles ℝ) : Profiles ℝ := { P with u := fun i => -P.u i }
def mirrorY (P : Profiles ℝ) : Profiles ℝ := { P with v := fun i => -P.v i }
def swapXY (P : Profiles ℝ) : Profiles ℝ := { u := P.v, v := P.u, Kx := P.Ky, Ky := P.Kx, Kz := P.Kz }
/-- all diffusivities multiplied by `s` -/
def scaleK (s : ℝ) (P : Profiles ℝ) : Profiles ℝ :=
  { P with Kx := fun i => s * P.Kx i, Ky := fun i => s * P.Ky i, Kz := fun i => s * P.Kz i }
/-- winds and diffusivities multiplied by `s` -/
def scaleUK (s : ℝ) (P : Profiles ℝ) : Profiles ℝ :=
  { u := fun i => s * P.u i, v := fun i => s * P.v i,
    Kx := fun i => s * P.Kx i, Ky := fun i => s * P.Ky i, Kz := fun i => s * P.Kz i }

theorem Tcoef_mirrorX (P : Profiles ℝ) (Lx Ly : ℝ) (i : ℕ) :
    Tcoef RC (mirrorX P) (-Lx) Ly i = Tcoef RC P Lx Ly i := by
  simp only [Tcoef_RC, mirrorX]
  push_cast
  ring

theorem Tcoef_mirrorY (P : Profiles ℝ) (Lx Ly : ℝ) (i : ℕ) :
    Tcoef RC (mirrorY P) Lx (-Ly) i = Tcoef RC P Lx Ly i := by
  simp only [Tcoef_RC, mirrorY]
  push_cast
  ring

theorem Tcoef_swap (P : Profiles ℝ) (Lx Ly : ℝ) (i : ℕ) :
    Tcoef RC (swapXY P) Ly Lx i = Tcoef RC P Lx Ly i := by
  simp only [Tcoef_RC, swapXY]
  push_cast
  ring

/-- right-hand sides in the form `μ / γ * T` of the similarity lemmas (`Lemmas/Mode`): `μ = 1`, `γ = s` … -/
theorem Tcoef_length (P : Profiles ℝ) (Lx Ly s : ℝ) (hs : s ≠ 0) (i : ℕ) :
    Tcoef RC (scaleK s P) (Lx / s) (Ly / s) i = ((1 : ℝ) : ℂ) / s * Tcoef RC P Lx Ly i := by
  have : (s : ℂ) ≠ 0 := by exact_mod_cast hs
  simp only [Tcoef_RC, scaleK]
  push_cast
  field_simp

/-- … `μ = s`, `γ = 1` -/
theorem Tcoef_velocity (P : Profiles ℝ) (Lx Ly s : ℝ) (i : ℕ) :
    Tcoef RC (scaleUK s P) Lx Ly i = (s : ℂ) / (1 : ℝ) * Tcoef RC P Lx Ly i := by
  simp only [Tcoef_RC, scaleUK]
  push_cast
  ring

/-- `Kz` of the scaled profiles in the form `μ γ Kz` of the similarity lemmas: lengths × `γ = s` … -/
theorem scaleK_Kz (s : ℝ) (P : Profiles ℝ) (i : ℕ) : (scaleK s P).Kz i = 1 * s * P.Kz i := by
  rw [one_mul]
  rfl

/-- … velocities × `μ = s` -/
theorem scaleUK_Kz (s : ℝ) (P : Profiles ℝ) (i : ℕ) : (scaleUK s P).Kz i = s * 1 * P.Kz i := by
  rw [mul_one]
  rfl

/-- x-mirror: source mirrored (`Lx ↦ -Lx`), `u ↦ -u` leaves every column unchanged -/
theorem column_mirrorX (P : Profiles ℝ) (z : ℕ → ℝ) (top : ℕ) (Lx Ly : ℝ) (qh : ℂ) (l : ℕ) :
    columnNum RC (mirrorX P) z top (-Lx) Ly qh l = columnNum RC P z top Lx Ly qh l :=
  column_congr false (Tcoef_mirrorX P Lx Ly) rfl z top qh l

theorem column_mirrorY (P : Profiles ℝ) (z : ℕ → ℝ) (top : ℕ) (Lx Ly : ℝ) (qh : ℂ) (l : ℕ) :
    columnNum RC (mirrorY P) z top Lx (-Ly) qh l = columnNum RC P z top Lx Ly qh l :=
  column_congr false (Tcoef_mirrorY P Lx Ly) rfl z top qh l

/-- axis swap: wind components, horizontal diffusivities and wavenumbers exchanged -/
theorem column_swap (P : Profiles ℝ) (z : ℕ → ℝ) (top : ℕ) (Lx Ly : ℝ) (qh : ℂ) (l : ℕ) :
    columnNum RC (swapXY P) z top Ly Lx qh l = columnNum RC P z top Lx Ly qh l :=
  column_congr false (Tcoef_swap P Lx Ly) rfl z top qh l

/-- the analytic branch has the same three symmetries -/
theorem columnAna_symm (P : Profiles ℝ) (z : ℕ → ℝ) (top : ℕ) (Lx Ly : ℝ) (qh : ℂ) (l : ℕ) :
    columnAna RC (mirrorX P) z top (-Lx) Ly qh l = columnAna RC P z top Lx Ly qh l ∧
    columnAna RC (mirrorY P) z top Lx (-Ly) qh l = columnAna RC P z top Lx Ly qh l ∧
    columnAna RC (swapXY P) z top Ly Lx qh l = columnAna RC P z top Lx Ly qh l :=
  ⟨column_congr true (Tcoef_mirrorX P Lx Ly) rfl z top qh l, column_congr true (Tcoef_mirrorY P Lx Ly) rfl z top qh l,
    column_congr true (Tcoef_swap P Lx Ly) rfl z top qh l⟩

/-- length similarity: all lengths (`z`, and `1/L`) and all diffusivities times `s > 0`:
every layer map is unchanged … -/
theorem layer_length_similarity (T k dz s : ℂ) (hs : s ≠ 0) (pq : ℂ × ℂ) :
    layerStep (T / s) (k / s) (s * dz) pq = layerStep T k dz pq := by
  have h := layer_similarity T k dz 1 s one_ne_zero hs pq.1 pq.2
  rwa [one_div, inv_mul_eq_div, one_mul, div_one, div_one] at h

/-- … hence so is the whole sweep … -/
theorem ivp_length_similarity (P : Profiles ℝ) (z : ℕ → ℝ) (Lx Ly s : ℝ) (hs : s ≠ 0)
    (pq0 : ℂ × ℂ) (l : ℕ) :
    ivpState RC (scaleK s P) (fun i => s * z i) (Lx / s) (Ly / s) pq0 l = ivpState RC P z Lx Ly pq0 l := by
  have h := ivp_similarity (z := z) one_ne_zero (Tcoef_length P Lx Ly s hs) (scaleK_Kz s P)
    (fun _ => rfl) hs pq0.1 pq0.2 l
  rwa [Complex.ofReal_one, div_one, div_one] at h

/-- … `Kz·λ` is unchanged (`λ ↦ λ/s`) … -/
theorem eigval_length (P : Profiles ℝ) (top : ℕ) (Lx Ly s : ℝ) (hs : 0 < s) :
    eigval RC (scaleK s P) top (Lx / s) (Ly / s) = eigval RC P top Lx Ly / (s : ℂ) :=
  eigval_similarity one_ne_zero (Tcoef_length P Lx Ly s hs.ne') (scaleK_Kz s P) hs top

/-- … and therefore flux and concentration of every mode are unchanged -/
theorem column_length_similarity (P : Profiles ℝ) (z : ℕ → ℝ) (top : ℕ) (Lx Ly s : ℝ) (hs : 0 < s) (qh : ℂ) (l : ℕ) :
    columnNum RC (scaleK s P) (fun i => s * z i) top (Lx / s) (Ly / s) qh l
      = columnNum RC P z top Lx Ly qh l := by
  have h := column_similarity (z := z) one_ne_zero (Tcoef_length P Lx Ly s hs.ne') (scaleK_Kz s P)
    (fun _ => rfl) hs false top qh l
  rwa [Complex.ofReal_one, div_one] at h

/-- velocity similarity, one layer: with `(u, v, K) ↦ s (u, v, K)` the state `(p, q)`
maps to `(p / s, q)` -/
theorem layer_velocity_similarity (T k dz s : ℂ) (hs : s ≠ 0) (p q : ℂ) :
    layerStep (s * T) (k / s) dz (p / s, q) =
      ((layerStep T k dz (p, q)).1 / s, (layerStep T k dz (p, q)).2) := by
  have h := layer_similarity T k dz s 1 hs one_ne_zero p q
  rwa [div_one, mul_one, one_mul] at h

theorem ivp_velocity_similarity (P : Profiles ℝ) (z : ℕ → ℝ) (Lx Ly s : ℝ) (hs : s ≠ 0)
    (p q : ℂ) (l : ℕ) :
    ivpState RC (scaleUK s P) z Lx Ly (p / (s : ℂ), q) l =
      ((ivpState RC P z Lx Ly (p, q) l).1 / (s : ℂ), (ivpState RC P z Lx Ly (p, q) l).2) :=
  ivp_similarity hs (Tcoef_velocity P Lx Ly s) (scaleUK_Kz s P) (fun _ => (one_mul _).symm) one_ne_zero p q l

theorem eigval_velocity (P : Profiles ℝ) (top : ℕ) (Lx Ly s : ℝ) (hs : s ≠ 0) :
    eigval RC (scaleUK s P) top Lx Ly = eigval RC P top Lx Ly := by
  have h := eigval_similarity hs (Tcoef_velocity P Lx Ly s) (scaleUK_Kz s P) one_pos top
  rwa [Complex.ofReal_one, div_one] at h

/-- velocity similarity: multiplying winds and diffusivities by `s` leaves the flux of
every mode unchanged and divides its concentration by `s` -/
theorem column_velocity_similarity (P : Profiles ℝ) (z : ℕ → ℝ) (top : ℕ) (Lx Ly s : ℝ) (hs : s ≠ 0)
    (qh : ℂ) (l : ℕ) :
    columnNum RC (scaleUK s P) z top Lx Ly qh l =
      ((columnNum RC P z top Lx Ly qh l).1 / (s : ℂ), (columnNum RC P z top Lx Ly qh l).2) :=
  column_similarity hs (Tcoef_velocity P Lx Ly s) (scaleUK_Kz s P) (fun _ => (one_mul _).symm) one_pos
    false top qh l

/-! non-vacuity: `mirrorX` is not the identity on a sheared anisotropic profile -/
example : mirrorX ⟨fun i => 1 + i, fun _ => 2, fun _ => 1, fun _ => 3, fun _ => 2⟩ ≠
    (⟨fun i => 1 + i, fun _ => 2, fun _ => 1, fun _ => 3, fun _ => 2⟩ : Profiles ℝ) := by
  intro h
  have := congrArg (fun P => P.u 0) h
  simp [mirrorX] at this
  linarith

end BLDFM.C07
