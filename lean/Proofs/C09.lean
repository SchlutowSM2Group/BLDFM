/-
  C09 — closure profiles are self-consistent with similarity theory and the grid.
  The functions of BLDFM/Pbl.lean enter through their equations at `RC`, stated here once.  The record
  `verticalProfiles` itself is not unfolded by any theorem: the statements about the wind vector and the MOSTM split are
  about the expressions its branches are built from (`um / absum * a`, `K v² / (u² + v²)`, …).
-/
import BLDFM.Pbl
import Proofs.Lemmas.Spec
import Mathlib.Analysis.SpecialFunctions.Log.Basic
import Mathlib.Analysis.SpecialFunctions.Pow.Real
import Mathlib.Analysis.SpecialFunctions.Trigonometric.Arctan

open BLDFM BLDFM.Spec

namespace BLDFM.C09

theorem gridBB_eq (zm z0 h : ℝ) : gridBB RC zm z0 h = zm / (Real.exp (-z0 / h) - Real.exp (-zm / h)) := rfl

theorem gridAA_eq (zm z0 h : ℝ) : gridAA RC zm z0 h = gridBB RC zm z0 h * Real.exp (-z0 / h) := rfl

/-- `ζmax` is the `ζ` of the domain height (see `gridZ_inv`) -/
theorem gridZetaMax_eq (zm z0 h zmx : ℝ) :
    gridZetaMax RC zm z0 h zmx = gridBB RC zm z0 h * (Real.exp (-z0 / h) - Real.exp (-zmx / h)) := by
  rw [gridZetaMax, gridAA_eq, RC_exp, mul_sub]

theorem gridZ_eq (zm z0 h ζ : ℝ) :
    gridZ RC zm z0 h ζ = -h * Real.log ((gridAA RC zm z0 h - ζ) / gridBB RC zm z0 h) := by
  rw [gridZ, RC_log, neg_sub]

/-- numpy's `arange(0, stop, step)` has `⌈stop/step⌉` entries -/
theorem arangeLen_eq_ceil (stop step : ℝ) : arangeLen RC stop step = ⌈stop / step⌉₊ := by
  rw [arangeLen, RC_truncNat, RC_natCast]
  split_ifs with h
  · exact (Nat.ceil_le_floor_add_one _).antisymm' (Nat.add_one_le_ceil_iff.2 h)
  · exact (Nat.floor_le_ceil _).antisymm (Nat.ceil_le.2 (not_lt.1 h))

theorem exp_gap_pos (zm z0 h : ℝ) (hz : z0 < zm) (hh : 0 < h) :
    0 < Real.exp (-z0 / h) - Real.exp (-zm / h) :=
  sub_pos.2 (Real.exp_lt_exp.2 (div_lt_div_of_pos_right (neg_lt_neg hz) hh))

theorem gridBB_pos (zm z0 h : ℝ) (h0 : 0 < z0) (hz : z0 < zm) (hh : 0 < h) : 0 < gridBB RC zm z0 h := by
  rw [gridBB_eq]
  exact div_pos (h0.trans hz) (exp_gap_pos zm z0 h hz hh)

/-- the grid inverts `ζ(z) = bb (e^{-z0/h} − e^{-z/h})`, at every height `z` -/
theorem gridZ_inv (zm z0 h z : ℝ) (h0 : 0 < z0) (hz : z0 < zm) (hh : 0 < h) :
    gridZ RC zm z0 h (gridBB RC zm z0 h * (Real.exp (-z0 / h) - Real.exp (-z / h))) = z := by
  rw [gridZ_eq, gridAA_eq, ← mul_sub, sub_sub_cancel, mul_div_cancel_left₀ _ (gridBB_pos zm z0 h h0 hz hh).ne',
    Real.log_exp]
  field_simp

/-- the grid starts at the roughness length: `z(0) = z0` -/
theorem grid_bottom (zm z0 h : ℝ) (h0 : 0 < z0) (hz : z0 < zm) (hh : 0 < h) :
    gridZ RC zm z0 h 0 = z0 := by
  simpa using gridZ_inv zm z0 h z0 h0 hz hh

/-- the measurement height is a grid node: `z(zm) = zm` … -/
theorem grid_meas (zm z0 h : ℝ) (h0 : 0 < z0) (hz : z0 < zm) (hh : 0 < h) :
    gridZ RC zm z0 h zm = zm := by
  have e := gridZ_inv zm z0 h zm h0 hz hh
  rwa [gridBB_eq, div_mul_cancel₀ zm (exp_gap_pos zm z0 h hz hh).ne'] at e

/-- … and it is the node with index `n` (the requested number of layers): `ζ_n = n · (zm/n) = zm` -/
theorem grid_meas_index (zm z0 h : ℝ) (n : ℕ) (hn : 0 < n) (h0 : 0 < z0) (hz : z0 < zm) (hh : 0 < h) :
    gridZ RC zm z0 h (RC.natCast n * (zm / RC.natCast n)) = zm := by
  rw [RC_natCast, mul_div_cancel₀ _ (Nat.cast_ne_zero.2 hn.ne'), grid_meas zm z0 h h0 hz hh]

/-- strictly increasing below the singularity `ζ = aa` -/
theorem grid_strict_mono (zm z0 h ζ₁ ζ₂ : ℝ) (h0 : 0 < z0) (hz : z0 < zm) (hh : 0 < h)
    (h12 : ζ₁ < ζ₂) (h2 : ζ₂ < gridAA RC zm z0 h) :
    gridZ RC zm z0 h ζ₁ < gridZ RC zm z0 h ζ₂ := by
  have hb := gridBB_pos zm z0 h h0 hz hh
  have a2 : 0 < (gridAA RC zm z0 h - ζ₂) / gridBB RC zm z0 h := div_pos (sub_pos.2 h2) hb
  have a12 : (gridAA RC zm z0 h - ζ₂) / gridBB RC zm z0 h < (gridAA RC zm z0 h - ζ₁) / gridBB RC zm z0 h :=
    div_lt_div_of_pos_right (sub_lt_sub_left h12 _) hb
  rw [gridZ_eq, gridZ_eq]
  exact mul_lt_mul_of_neg_left (Real.log_lt_log a2 a12) (neg_neg_of_pos hh)

/-- the node `ζ = ζmax` sits exactly at the domain height -/
theorem grid_top (zm z0 h zmx : ℝ) (h0 : 0 < z0) (hz : z0 < zm) (hh : 0 < h) :
    gridZ RC zm z0 h (gridZetaMax RC zm z0 h zmx) = zmx := by
  rw [gridZetaMax_eq, gridZ_inv zm z0 h zmx h0 hz hh]

/-- the grid has enough nodes to pass the domain height: with `stop = ζmax + dζ`, `step = dζ` as in
`verticalProfiles` (numpy `arange(0, ζmax + dζ, dζ)` has `⌈(ζmax + dζ)/dζ⌉` entries) the `ζ` of the last node,
`len·dζ − dζ`, is `≥ ζmax`; that its height then is `≥ zmx` (`grid_top`, `grid_strict_mono`) is not assembled -/
theorem grid_reaches_top (stop step : ℝ) (hstep : 0 < step) (hstop : 0 < stop) :
    stop - step ≤ ((arangeLen RC stop step : ℕ) : ℝ) * step - step ∧ 1 ≤ arangeLen RC stop step := by
  rw [arangeLen_eq_ceil]
  exact ⟨sub_le_sub_right ((div_le_iff₀ hstep).1 (Nat.le_ceil _)) _, Nat.one_le_ceil_iff.2 (div_pos hstop hstep)⟩

theorem psi_model_eq (x : ℝ) : psi RC x = if 0 < x then 5 * x else psiUnstable RC ((1 - 16 * x) ^ (0.25 : ℝ)) := by
  simp only [psi, RC_rpow]
  norm_num

/-- the unstable branch as a function of `ξ = (1 − 16x)^{1/4}` -/
noncomputable def Fxi (ξ : ℝ) : ℝ :=
  -2 * Real.log (1 / 2 * (1 + ξ)) - Real.log (1 / 2 * (1 + ξ ^ 2)) + 2 * Real.arctan ξ - 1 / 2 * Real.pi

theorem psiUnstable_eq_Fxi (ξ : ℝ) : psiUnstable RC ξ = Fxi ξ := by
  simp only [psiUnstable, Fxi, RC_log, RC_arctan, RC_pi]
  norm_num

theorem psi_of_pos {x : ℝ} (hx : 0 < x) : psi RC x = 5 * x := by
  rw [psi_model_eq, if_pos hx]

theorem psi_unstable_eq {x : ℝ} (hx : x ≤ 0) : psi RC x = Fxi ((1 - 16 * x) ^ ((1 : ℝ) / 4)) := by
  rw [psi_model_eq, if_neg hx.not_gt, psiUnstable_eq_Fxi]
  norm_num

theorem phi_of_pos {x : ℝ} (hx : 0 < x) : phi RC x = 1 + 5 * x := by
  rw [phi]
  norm_num [hx]

theorem phi_of_nonpos {x : ℝ} (hx : x ≤ 0) : phi RC x = (1 - 16 * x) ^ (-(1 : ℝ) / 2) := by
  rw [phi, RC_rpow]
  norm_num [hx.not_gt]

theorem absuMost_eq (ustar z0 mol z : ℝ) :
    absuMost RC ustar z0 mol z = ustar / 0.4 * (Real.log (z / z0) + psi RC (z / mol)) := rfl

theorem z0FromUstar_eq (zm absum ustar mol : ℝ) :
    z0FromUstar RC zm absum ustar mol = zm * Real.exp (-0.4 * absum / ustar + psi RC (zm / mol)) := rfl

theorem ustarFromZ0_eq (zm absum z0 mol : ℝ) :
    ustarFromZ0 RC zm absum z0 mol = absum * 0.4 / (Real.log (zm / z0) + psi RC (zm / mol)) := rfl

theorem z0Oaahoc_eq (zm absum ustar tke : ℝ) :
    z0Oaahoc RC zm absum ustar tke = zm * Real.exp (-0.0856 * 0.845 * absum * Real.sqrt tke / ustar ^ 2) := rfl

theorem kMost_eq (ustar mol prsc z : ℝ) :
    kMost RC ustar mol prsc z = 0.4 * ustar * z / phi RC (z / mol) / prsc := rfl

theorem log_div_mul_exp {z : ℝ} (hz : z ≠ 0) (E : ℝ) : Real.log (z / (z * Real.exp E)) = -E := by
  rw [div_mul_cancel_left₀ hz, Real.log_inv, Real.log_exp]

/-- MOST / MOSTM, friction-velocity forcing: the log law with the derived roughness length
reproduces the supplied wind speed at the measurement height -/
theorem wind_at_meas_ustar (zm absum ustar mol : ℝ) (hzm : 0 < zm) (hus : ustar ≠ 0) :
    absuMost RC ustar (z0FromUstar RC zm absum ustar mol) mol zm = absum := by
  rw [absuMost_eq, z0FromUstar_eq, log_div_mul_exp hzm.ne']
  field_simp
  ring

/-- MOST / MOSTM, roughness-length forcing -/
theorem wind_at_meas_z0 (zm absum z0 mol : ℝ)
    (hden : Real.log (zm / z0) + psi RC (zm / mol) ≠ 0) :
    absuMost RC (ustarFromZ0 RC zm absum z0 mol) z0 mol zm = absum := by
  rw [absuMost_eq, ustarFromZ0_eq]
  field_simp

/-- hence the profile wind vector at the measurement node is the supplied one: `um / absum * au`, `vm / absum * au` are
the components `verticalProfiles` returns, `au` the speed at the node -/
theorem wind_vector_at_meas (um vm absum au : ℝ) (hau : au = absum) (habs : absum ≠ 0) :
    um / absum * au = um ∧ vm / absum * au = vm := by
  rw [hau]; constructor <;> field_simp

/-- one-and-a-half order closure: its own log law (the expression `au` of the `.oaahoc` branch of `verticalProfiles`,
written out) reproduces the wind at the measurement height -/
theorem wind_at_meas_oaahoc (zm absum ustar tke : ℝ) (hzm : 0 < zm) (hus : ustar ≠ 0)
    (htke : 0 < tke) :
    ustar ^ 2 / oaCm / oaCl / RC.sqrt tke * RC.log (zm / z0Oaahoc RC zm absum ustar tke) = absum := by
  rw [z0Oaahoc_eq, RC_log, RC_sqrt, log_div_mul_exp hzm.ne', oaCm, oaCl]
  field_simp

/-- the wind direction is constant with height: the components `(um / absum * a, vm / absum * a)` that
`verticalProfiles` returns at a node of speed `a` are parallel to `(um, vm)` -/
theorem wind_direction_constant (um vm absum a : ℝ) :
    (um / absum * a) * vm = (vm / absum * a) * um := by ring

/-- … and the multiple is positive wherever the speed is (no reversal) -/
theorem wind_no_reversal (um vm absum a : ℝ) (habs : 0 < absum) (ha : 0 < a) (hne : um ≠ 0 ∨ vm ≠ 0) :
    0 < (um / absum * a) * um + (vm / absum * a) * vm := by
  have hsq : 0 < um ^ 2 + vm ^ 2 := by
    rcases hne with h | h
    · positivity
    · positivity
  calc 0 < (um ^ 2 + vm ^ 2) * (a / absum) := mul_pos hsq (div_pos ha habs)
    _ = (um / absum * a) * um + (vm / absum * a) * vm := by ring

theorem phi_pos (x : ℝ) : 0 < phi RC x := by
  rcases lt_or_ge 0 x with h | h
  · rw [phi_of_pos h]; linarith
  · rw [phi_of_nonpos h]; exact Real.rpow_pos_of_pos (by linarith) _

/-- `Kz = κ u* z / (φ(z/L) Pr) > 0` -/
theorem Kz_pos (ustar mol prsc z : ℝ) (hus : 0 < ustar) (hp : 0 < prsc) (hz : 0 < z) :
    0 < kMost RC ustar mol prsc z := by
  have := phi_pos (z / mol)
  rw [kMost_eq]
  positivity

/-- MOSTM: the horizontal diffusivities (the expressions of the `.mostm` branch of `verticalProfiles`) are the
cross-wind projection of `K`: `Kx + Ky = Kz`, both non-negative (the along-wind component is zero by design) -/
theorem mostm_split (K u v : ℝ) (hK : 0 ≤ K) (huv : u ^ 2 + v ^ 2 ≠ 0) :
    K * v ^ 2 / (u ^ 2 + v ^ 2) + K * u ^ 2 / (u ^ 2 + v ^ 2) = K ∧
    0 ≤ K * v ^ 2 / (u ^ 2 + v ^ 2) ∧ 0 ≤ K * u ^ 2 / (u ^ 2 + v ^ 2) := by
  refine ⟨?_, by positivity, by positivity⟩
  rw [← add_div, ← mul_add, add_comm, mul_div_assoc, div_self huv, mul_one]

theorem ustar_z0_roundtrip (zm absum ustar mol : ℝ) (hzm : 0 < zm) (hus : ustar ≠ 0) (habs : absum ≠ 0) :
    ustarFromZ0 RC zm absum (z0FromUstar RC zm absum ustar mol) mol = ustar := by
  rw [ustarFromZ0_eq, z0FromUstar_eq, log_div_mul_exp hzm.ne']
  field_simp
  ring

theorem z0_ustar_roundtrip (zm absum z0 mol : ℝ) (hzm : 0 < zm) (hz0 : 0 < z0) (habs : absum ≠ 0)
    (hden : Real.log (zm / z0) + psi RC (zm / mol) ≠ 0) :
    z0FromUstar RC zm absum (ustarFromZ0 RC zm absum z0 mol) mol = z0 := by
  rw [z0FromUstar_eq, ustarFromZ0_eq]
  have e : -(0.4 : ℝ) * absum / (absum * 0.4 / (Real.log (zm / z0) + psi RC (zm / mol))) + psi RC (zm / mol)
      = -Real.log (zm / z0) := by
    field_simp; ring
  rw [e, Real.exp_neg, Real.exp_log (div_pos hzm hz0)]
  field_simp

theorem psi_zero : psi RC 0 = 0 := by
  rw [psi_unstable_eq le_rfl, Fxi]
  norm_num
  ring

theorem phi_zero : phi RC 0 = 1 := by
  rw [phi_of_nonpos le_rfl]; norm_num

/-! numbers meeting the grid hypotheses `0 < z0 < zm`, `0 < h` -/
example : (0 : ℝ) < 0.05 ∧ (0.05 : ℝ) < 3 ∧ (0 : ℝ) < 6 := by norm_num

end BLDFM.C09
