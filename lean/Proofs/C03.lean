/-
  C03 — level-wise conservation at the level of the zero-wavenumber component:
  at every output level the (0,0) coefficient of the flux spectrum is the mean
  surface flux `q̂₀₀`, that of the concentration is `bg - q̂₀₀ · R_l` with the
  trapezoid (numeric) or `h/Kz` (analytic) resistance; in footprint mode
  `q̂₀₀ = 1/(Nx·Ny)`; the (0,0) slot is placed at index (0,0) of the full spectrum
  with unit phase.  (The horizontal mean over the padded domain equals the (0,0)
  coefficient, by orthogonality.)  Also the size and placement part of
  "halo = zero padding" (`halo_is_zero_padding`).
-/
import Proofs.Lemmas.Phase
import Proofs.Lemmas.Mode
import Proofs.C11

open BLDFM BLDFM.Spec BLDFM.Index

namespace BLDFM.C03

/-- DC flux coefficient = mean surface flux, at every level, numeric and analytic -/
theorem dc_flux_conserved {g : Geom ℝ} (req : SolveReq ℝ) (S : ℕ → ℕ → ℂ) (l : ℕ) :
    (modeCoef RC req g S l 0 0).2 = S 0 0 := by
  rw [modeCoef_RC, if_pos ⟨rfl, rfl⟩]

/-- DC concentration coefficient = background − mean flux × vertical resistance -/
theorem dc_conc_resistance (req : SolveReq ℝ) (S : ℕ → ℕ → ℂ) (l : ℕ) (hp : req.precision = .double) :
    (modeCoef RC req (geom RC req) S l 0 0).1 =
      if req.analytic then
        (req.bg : ℂ) - S 0 0 * (((req.z l - req.z 0) / req.P.Kz (req.nz - 1) : ℝ) : ℂ)
      else
        (req.bg : ℂ) - S 0 0 * ((∑ i ∈ Finset.range l,
          (req.z (i + 1) - req.z i) * (0.5 / req.P.Kz i + 0.5 / req.P.Kz (i + 1)) : ℝ) : ℂ) := by
  rw [modeCoef_RC, if_pos ⟨rfl, rfl⟩]
  cases req.analytic
  · simp only [meanMode, meanNum, resistNum, sumN_lit_eq_sum, RC_ofReal, Bool.false_eq_true, if_false]
  · simp only [meanMode, meanAna, RC_ofReal, if_true]
    push_cast
    norm_num
    ring

/-- footprint mode: the source spectrum is the constant `1/(Nx·Ny)` (unit impulse) -/
theorem footprint_unit_spectrum (req : SolveReq ℝ) (hfp : req.footprint = true) (g : Geom ℝ) (a b : ℕ) :
    (srcSpectrum RC req g).get a b = 1 / ((g.nxe : ℂ) * (g.nye : ℂ)) := by
  simp only [srcSpectrum, hfp, if_true, Tab2.get_tab, RC_ofReal, RC_natCast]
  push_cast
  norm_num
  ring

/-- the (0,0) slot has unit phase in both modes … -/
theorem dc_phase_unit (req : SolveReq ℝ) (g : Geom ℝ) (h0x : 0 < g.nlx) (h0y : 0 < g.nly) :
    shiftFactor RC req g 0 0 = 1 := by
  have fx : waveX RC g 0 = 0 := by rw [waveX_eq g h0x, sfreq_zero h0x, Int.cast_zero, mul_zero]
  have fy : waveY RC g 0 = 0 := by rw [waveY_eq g h0y, sfreq_zero h0y, Int.cast_zero, mul_zero]
  rw [shiftFactor_RC, fx, fy]
  simp only [zero_mul, add_zero, Complex.ofReal_zero, mul_zero, Complex.exp_zero]
  rw [ite_self, ite_self]

/-- … and sits at index (0,0) of the full-size spectrum (both parities) -/
theorem dc_slot_position (req : SolveReq ℝ) (T : ℕ → ℕ → ℂ)
    (hnx : 0 < req.nx) (hny : 0 < req.ny)
    (hex : req.nlx % 2 = 0) (hey : req.nly % 2 = 0) (hpx : 0 < req.nlx) (hpy : 0 < req.nly) :
    untrunc (geom RC req) T 0 0 = T 0 0 := by
  obtain ⟨hy, hx, hdy, hdx⟩ := C11.geom_admissible req hnx hny hex hey hpx hpy
  have h := C11.untrunc_hit (geom RC req) T 0 0 hy hx hdy hdx hy.pos hx.pos
  rwa [slotPos_zero hy.pos, slotPos_zero hx.pos] at h

theorem padSrc_inside (r : SolveReq ℝ) (g : Geom ℝ) {j i : ℕ} (hj : j < r.ny) (hi : i < r.nx) :
    padSrc RC r g (j + g.py) (i + g.px) = (r.q j i : ℂ) := by
  rw [padSrc_RC, if_pos ⟨by omega, by omega, by omega, by omega⟩, Nat.add_sub_cancel, Nat.add_sub_cancel]

/-- halo ≡ zero padding (sizes): a halo of width `h` pads by `px = ⌊h/dx⌋`, `py = ⌊h/dy⌋`
whole cells on each side; the padded source is the input inside the window and zero outside -/
theorem halo_is_zero_padding (req : SolveReq ℝ) (j i : ℕ) :
    let g := geom RC req
    g.nxe = req.nx + 2 * g.px ∧ g.nye = req.ny + 2 * g.py ∧
    (∀ (hj : j < req.ny) (hi : i < req.nx), padSrc RC req g (j + g.py) (i + g.px) = (req.q j i : ℂ)) ∧
    ((j < g.py ∨ g.py + req.ny ≤ j ∨ i < g.px ∨ g.px + req.nx ≤ i) → padSrc RC req g j i = 0) := by
  intro g
  refine ⟨rfl, rfl, fun hj hi => padSrc_inside req g hj hi, fun h => ?_⟩
  rw [padSrc_RC, if_neg (by omega), Complex.ofReal_zero]

end BLDFM.C03
