/-
  C08 — reversing the wind point-reflects the footprint about the tower (whole model pipeline).  `wind_opposite` (C08.lean): `wd`
  and `wd + 180` give opposite winds, and the closures keep the direction with height (C09), so the whole profile is negated.
  A footprint request with both wind components negated at every node returns, on the periodic padded domain, the point
  reflection about the tower's cell `(J_m, I_m) = (j_m + p_y, i_m + p_x)`: `field'[J, I] = field[J', I']` whenever
  `I + I' ≡ 2 I_m (mod N_x)`, `J + J' ≡ 2 J_m (mod N_y)`, for both fields, every level, numeric and analytic.  Odd retained-mode
  counts: with even counts the Nyquist components have no partner of opposite wave vector and are excluded, as in C07.
  With `mode_crest_upwind` (C08b) this fixes the side of the tower the footprint lies on for either wind direction.
-/
import Proofs.Lemmas.Trig
import Proofs.C03
import Proofs.C06
import Proofs.C07
import Proofs.Lemmas.Witness

open BLDFM BLDFM.Spec BLDFM.Index

namespace BLDFM.C08

/-- both wind components negated at every node -/
def negUV (P : Profiles ℝ) : Profiles ℝ := C07.mirrorY (C07.mirrorX P)

/-- `r'` is `r` with the wind reversed -/
def Reversed (r r' : SolveReq ℝ) : Prop := r' = { r with P := negUV r.P }

theorem Tcoef_reverse (P : Profiles ℝ) (Lx Ly : ℝ) (i : ℕ) :
    Tcoef RC (negUV P) Lx Ly i = Tcoef RC P (-Lx) (-Ly) i := by
  simp only [Tcoef_RC, negUV, C07.mirrorX, C07.mirrorY]
  push_cast
  ring

/-- `W(L; −U) = W(−L; U)` for the numerical and the analytic column -/
theorem columnNum_reverse (P : Profiles ℝ) (z : ℕ → ℝ) (top : ℕ) (Lx Ly : ℝ) (qh : ℂ) (l : ℕ) :
    columnNum RC (negUV P) z top Lx Ly qh l = columnNum RC P z top (-Lx) (-Ly) qh l :=
  column_congr false (Tcoef_reverse P Lx Ly) rfl z top qh l

theorem columnAna_reverse (P : Profiles ℝ) (z : ℕ → ℝ) (top : ℕ) (Lx Ly : ℝ) (qh : ℂ) (l : ℕ) :
    columnAna RC (negUV P) z top Lx Ly qh l = columnAna RC P z top (-Lx) (-Ly) qh l :=
  column_congr true (Tcoef_reverse P Lx Ly) rfl z top qh l

section
variable {r r' : SolveReq ℝ} (h : Reversed r r')
include h

theorem rev_geom : geom RC r' = geom RC r := by
  rw [show r' = _ from h]
  rfl

theorem rev_shift (g : Geom ℝ) (a b : ℕ) : shiftFactor RC r' g a b = shiftFactor RC r g a b := by
  rw [show r' = _ from h]
  rfl

/-- wind reversal, component form (footprint mode): slot `(a, b)` of the reversed run is the slot `(aa, bb)` of opposite
frequencies of the original -/
theorem reverse_component (hfp : r.footprint = true) (l a b aa bb : ℕ)
    (ha : a < (geom RC r).nly) (haa : aa < (geom RC r).nly) (hb : b < (geom RC r).nlx) (hbb : bb < (geom RC r).nlx)
    (hfa : sfreq (geom RC r).nly aa = -sfreq (geom RC r).nly a) (hfb : sfreq (geom RC r).nlx bb = -sfreq (geom RC r).nlx b) :
    modeCoef RC r' (geom RC r) (srcSpectrum RC r' (geom RC r)).get l a b =
      modeCoef RC r (geom RC r) (srcSpectrum RC r (geom RC r)).get l aa bb := by
  have hS : (srcSpectrum RC r' (geom RC r)).get a b = 1 * (srcSpectrum RC r (geom RC r)).get aa bb := by
    rw [C03.footprint_unit_spectrum r' ((congrArg (·.footprint) h).trans hfp), C03.footprint_unit_spectrum r hfp, one_mul]
  have h0 : (a = 0 ∧ b = 0) ↔ (aa = 0 ∧ bb = 0) :=
    and_congr (eq_zero_iff_of_sfreq_neg ha haa hfa) (eq_zero_iff_of_sfreq_neg hb hbb hfb)
  rw [← one_smul ℂ (modeCoef RC r _ _ l aa bb)]
  refine modeCoef_congr (han := congrArg (·.analytic) h) (hnz := congrArg (·.nz) h) (hz := congrArg (·.z) h)
    (hK := congrArg (·.P.Kz) h) (hbg := congrArg (·.bg) h) (h0 := h0) (hT := fun i => ?_) (hS := hS) (hχ := fun _ => rfl) l
  rw [show r'.P = negUV r.P from congrArg (·.P) h, waveX_neg _ hb hbb hfb, waveY_neg _ ha haa hfa]
  exact (Tcoef_reverse _ _ _ i).trans (by rw [neg_neg, neg_neg])

/-- **wind reversal = point reflection about the tower** (footprint mode, on-grid tower, odd retained-mode counts) -/
theorem reverse_point_reflection (hg : GeomOK (geom RC r)) (hp : r.precision = .double) (hfp : r.footprint = true)
    (im jm : ℕ) (hxm : r.xm = im * (geom RC r).dx) (hym : r.ym = jm * (geom RC r).dy)
    (hdx : (geom RC r).dx ≠ 0) (hdy : (geom RC r).dy ≠ 0)
    (hoddx : (geom RC r).nlx % 2 = 1) (hoddy : (geom RC r).nly % 2 = 1)
    (l J I J' I' : ℕ) (tx ty : ℤ)
    (hI : (I : ℤ) + I' = 2 * ((im + (geom RC r).px : ℕ) : ℤ) + (geom RC r).nxe * tx)
    (hJ : (J : ℤ) + J' = 2 * ((jm + (geom RC r).py : ℕ) : ℤ) + (geom RC r).nye * ty) :
    (fieldsAt RC r' (geom RC r') (srcSpectrum RC r' (geom RC r')).get l).1.get J I
      = (fieldsAt RC r (geom RC r) (srcSpectrum RC r (geom RC r)).get l).1.get J' I' ∧
    (fieldsAt RC r' (geom RC r') (srcSpectrum RC r' (geom RC r')).get l).2.get J I
      = (fieldsAt RC r (geom RC r) (srcSpectrum RC r (geom RC r)).get l).2.get J' I' := by
  rw [rev_geom h]
  refine Prod.mk.inj ?_
  rw [fieldsAt_trig r' _ hg, fieldsAt_trig r _ hg, show r'.footprint = r.footprint from congrArg (·.footprint) h]
  have hJ' : 2 * ((jm + (geom RC r).py : ℕ) : ℤ) - (J : ℤ) = (J' : ℤ) + ((geom RC r).nye : ℤ) * -ty := by
    linear_combination -hJ
  have hI' : 2 * ((im + (geom RC r).px : ℕ) : ℤ) - (I : ℤ) = (I' : ℤ) + ((geom RC r).nxe : ℤ) * -tx := by
    linear_combination -hI
  refine (trig_reflect hoddy hoddx (2 * ((jm + (geom RC r).py : ℕ) : ℤ)) (2 * ((im + (geom RC r).px : ℕ) : ℤ))
    (fun a ha b hb => ?_) (J : ℤ) (I : ℤ)).trans (trig_periodic hg.Ny_pos hg.Nx_pos (-ty) (-tx) hJ' hI')
  have haa := partner_lt ha
  have hbb := partner_lt hb
  have hfa := sfreq_partner_of_odd hoddy ha
  have hfb := sfreq_partner_of_odd hoddx hb
  -- the tower's phase at a slot is the reflection character (the factor of `trig_reflect` at `s = -1`, centre `2 c`)
  -- times the phase at the partner slot
  have ph : ∀ (N : ℕ) (m c : ℤ), rootPow N (m * c) = rootPow N (-(-1 * m * (2 * c))) * rootPow N (-m * c) := fun N m c => by
    rw [← rootPow_add]
    congr 1
    ring
  have shift : shiftFactor RC r' (geom RC r) a b =
      (rootPow (geom RC r).nxe (-(-1 * sfreq (geom RC r).nlx b * (2 * ((im + (geom RC r).px : ℕ) : ℤ)))) *
        rootPow (geom RC r).nye (-(-1 * sfreq (geom RC r).nly a * (2 * ((jm + (geom RC r).py : ℕ) : ℤ))))) *
      shiftFactor RC r (geom RC r) (partner (geom RC r).nly a) (partner (geom RC r).nlx b) := by
    rw [rev_shift h, C06.footprint_phase_on_grid r hfp a b im jm hxm hym ha hb hdx hdy hg.Nx_pos hg.Ny_pos,
      C06.footprint_phase_on_grid r hfp _ _ im jm hxm hym haa hbb hdx hdy hg.Nx_pos hg.Ny_pos, hfa, hfb,
      ph _ (sfreq _ b), ph _ (sfreq _ a), mul_mul_mul_comm]
  have coef : modeCoef RC r' (geom RC r) (srcSpectrum RC r' (geom RC r)).get l a b =
      modeCoef RC r (geom RC r) (srcSpectrum RC r (geom RC r)).get l (partner (geom RC r).nly a) (partner (geom RC r).nlx b) :=
    reverse_component h hfp l a b _ _ ha haa hb hbb hfa hfb
  rw [coefTab, coefTab, coef, shift, smul_smul, hfp, sgnZ_true]

end

/-! non-vacuity: 5 × 5 cells, all five modes retained on each axis (6 requested, clamped), the tower on cell (1, 1) -/
example : ∃ (r r' : SolveReq ℝ) (im jm : ℕ), Reversed r r' ∧ GeomOK (geom RC r) ∧ r.precision = .double ∧
    r.footprint = true ∧ r.xm = im * (geom RC r).dx ∧ r.ym = jm * (geom RC r).dy ∧
    (geom RC r).dx ≠ 0 ∧ (geom RC r).dy ≠ 0 ∧ (geom RC r).nlx % 2 = 1 ∧ (geom RC r).nly % 2 = 1 := by
  refine ⟨{ Witness.wreq true with ny := 5, nlx := 6, nly := 6, ymx := 50 }, _, 1, 1, rfl, ?_, rfl, rfl, ?_, ?_, ?_, ?_, ?_, ?_⟩
  · exact GeomOK.of_request _ (by decide) (by decide) (by decide) (by decide) (by decide) (by decide)
  all_goals rw [C11.geom_no_halo rfl]
  · norm_num [Witness.wreq]
  · norm_num [Witness.wreq]
  · norm_num [Witness.wreq]
  · norm_num [Witness.wreq]
  · simp [clampModes, Witness.wreq]
  · simp [clampModes, Witness.wreq]

end BLDFM.C08
