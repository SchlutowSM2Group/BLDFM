/-
  C01 — the numerical column is the solution of the discrete boundary-value problem whose layer map is the degree-3
  Taylor polynomial of the frozen-coefficient propagator; decaying top condition; mean mode = trapezoid resistance;
  abstract one-step convergence lemma (local error ⇒ global error).  The property's figure (error shrinks at least 2.5×
  when the layer thickness is quartered) is not a theorem: it stays with the oracle.
-/
import Proofs.Lemmas.Csqrt
import Proofs.C04
import Proofs.Lemmas.Layer
import Mathlib.LinearAlgebra.Matrix.Notation
import Mathlib.Analysis.SpecialFunctions.Exp
import Mathlib.Analysis.ODE.DiscreteGronwall

open BLDFM BLDFM.Spec

namespace BLDFM.C01

/-- frozen-coefficient generator of the column ODE `(p, q)' = A (p, q)`,
`p' = -q/Kz`, `q' = T p` -/
def gen (T k : ℂ) : Matrix (Fin 2) (Fin 2) ℂ := !![0, -k; T, 0]

/-- degree-3 Taylor polynomial of `exp(dz • A)` -/
noncomputable def taylor3 (A : Matrix (Fin 2) (Fin 2) ℂ) (dz : ℂ) : Matrix (Fin 2) (Fin 2) ℂ :=
  1 + dz • A + (dz ^ 2 / 2) • (A * A) + (dz ^ 3 / 6) • (A * A * A)

theorem gen_mulVec (T k : ℂ) (x : ℂ × ℂ) :
    (gen T k).mulVec ![x.1, x.2] = ![(colGen T k x).1, (colGen T k x).2] := by
  ext i
  fin_cases i <;> simp [gen, colGen, Matrix.mulVec, dotProduct, Fin.sum_univ_two]

/-- the layer step is the degree-3 Taylor polynomial of the frozen-coefficient
propagator (pins the weighting and every coefficient, including the cubic ones) -/
theorem layer_is_taylor3 (T k dz p q : ℂ) :
    layerStep T k dz (p, q) =
      ((taylor3 (gen T k) dz).mulVec ![p, q] 0, (taylor3 (gen T k) dz).mulVec ![p, q] 1) := by
  have h := gen_mulVec T k
  rw [layerStep_eq_taylor]
  simp only [taylor3, Matrix.add_mulVec, Matrix.one_mulVec, Matrix.smul_mulVec, ← Matrix.mulVec_mulVec,
    h (p, q), h (colGen T k (p, q)), h (colGen T k (colGen T k (p, q)))]
  rfl

/-- the coefficients the sweep uses in layer `i` are those of node `i`:
`T_i = -(Kx_i Lx² + Ky_i Ly²) - i (u_i Lx + v_i Ly)`, `1/Kz_i`, `dz_i = z_{i+1} - z_i` -/
theorem sweep_uses_node_i (P : Profiles ℝ) (z : ℕ → ℝ) (Lx Ly : ℝ) (pq0 : ℂ × ℂ) (i : ℕ) :
    ivpState RC P z Lx Ly pq0 (i + 1) =
      layerStep
        (-(((P.Kx i * Lx ^ 2 + P.Ky i * Ly ^ 2 : ℝ) : ℂ)) - Complex.I * ((P.u i * Lx + P.v i * Ly : ℝ) : ℂ))
        (((1 / P.Kz i : ℝ)) : ℂ) ((z (i + 1) - z i : ℝ) : ℂ) (ivpState RC P z Lx Ly pq0 i) := by
  rw [ivpState, Tcoef_RC, RC_ofReal, RC_ofReal, show (1.0 : ℝ) = 1 by norm_num]

/-- the returned column obeys the layer recurrence -/
theorem column_recurrence (P : Profiles ℝ) (z : ℕ → ℝ) (top : ℕ) (Lx Ly : ℝ) (qh : ℂ) (l : ℕ) :
    columnNum RC P z top Lx Ly qh (l + 1) =
      layerStep (Tcoef RC P Lx Ly l) (RC.ofReal (1.0 / P.Kz l)) (RC.ofReal (z (l + 1) - z l))
        (columnNum RC P z top Lx Ly qh l) := by
  simp only [columnNum, ivpState, layerStep]
  refine Prod.ext ?_ ?_ <;> ring

/-- bottom boundary condition: the flux at the surface is the prescribed one -/
theorem column_bottom_flux (P : Profiles ℝ) (z : ℕ → ℝ) (top : ℕ) (Lx Ly : ℝ) (qh : ℂ) :
    (columnNum RC P z top Lx Ly qh 0).2 = qh := by
  simp only [columnNum, ivpState]
  norm_num

/-- the shooting denominator: `q − Kz_top λ p` at the top node for the sweep started from `(1, 0)` -/
noncomputable def shootDen (P : Profiles ℝ) (z : ℕ → ℝ) (top : ℕ) (Lx Ly : ℝ) : ℂ :=
  (ivpState RC P z Lx Ly ((1.0 : ℂ), (0.0 : ℂ)) top).2
    - RC.ofReal (P.Kz top) * eigval RC P top Lx Ly * (ivpState RC P z Lx Ly ((1.0 : ℂ), (0.0 : ℂ)) top).1

/-- top boundary condition: at the top node the flux matches the decaying
constant-coefficient continuation, `Q = Kz_top · λ · P` -/
theorem column_top_condition (P : Profiles ℝ) (z : ℕ → ℝ) (top : ℕ) (Lx Ly : ℝ) (qh : ℂ)
    (hden : shootDen P z top Lx Ly ≠ 0) :
    (columnNum RC P z top Lx Ly qh top).2 =
      RC.ofReal (P.Kz top) * eigval RC P top Lx Ly * (columnNum RC P z top Lx Ly qh top).1 := by
  unfold shootDen at hden
  simp only [columnNum, alphaShoot]
  field_simp
  ring

/-- uniqueness: any column generated by the layer recurrence from `(p0, q̂)` that
meets the top condition is the returned one -/
theorem column_unique (P : Profiles ℝ) (z : ℕ → ℝ) (top : ℕ) (Lx Ly : ℝ) (qh p0 : ℂ)
    (hden : shootDen P z top Lx Ly ≠ 0)
    (htop : (ivpState RC P z Lx Ly (p0, qh) top).2 =
      RC.ofReal (P.Kz top) * eigval RC P top Lx Ly * (ivpState RC P z Lx Ly (p0, qh) top).1) (l : ℕ) :
    ivpState RC P z Lx Ly (p0, qh) l = columnNum RC P z top Lx Ly qh l := by
  -- by linearity the sweep from `(p0, q̂)` is `p0` times the sweep from `(1, 0)` plus the sweep from `(0, q̂)`
  have hdec : ∀ m, ivpState RC P z Lx Ly (p0, qh) m =
      (p0 * (ivpState RC P z Lx Ly ((1.0 : ℂ), (0.0 : ℂ)) m).1 + (ivpState RC P z Lx Ly ((0.0 : ℂ), qh) m).1,
       p0 * (ivpState RC P z Lx Ly ((1.0 : ℂ), (0.0 : ℂ)) m).2 + (ivpState RC P z Lx Ly ((0.0 : ℂ), qh) m).2) := by
    intro m
    have h := C04.ivp_linear P z Lx Ly p0 1 ((1.0 : ℂ), (0.0 : ℂ)) ((0.0 : ℂ), qh) m
    rwa [show (p0 * (1.0 : ℂ) + 1 * (0.0 : ℂ), p0 * (0.0 : ℂ) + 1 * qh) = (p0, qh) by norm_num, one_mul, one_mul] at h
  -- the top condition then fixes `p0` to be the shooting coefficient
  have hal : p0 = alphaShoot RC (P.Kz top) (eigval RC P top Lx Ly)
      (ivpState RC P z Lx Ly ((1.0 : ℂ), (0.0 : ℂ)) top) (ivpState RC P z Lx Ly ((0.0 : ℂ), qh) top) := by
    unfold shootDen at hden
    rw [hdec top] at htop
    rw [alphaShoot, eq_div_iff hden]
    linear_combination htop
  rw [hdec l, columnNum, ← hal]

/-- the model's eigenvalue is a root of `λ² = -T_top / Kz_top` with the model's own horizontal operator -/
theorem eigval_sq_Tcoef (Pr : Profiles ℝ) (top : ℕ) (Lx Ly : ℝ) :
    (eigval RC Pr top Lx Ly) ^ 2 = -(Tcoef RC Pr Lx Ly top) / ((Pr.Kz top : ℝ) : ℂ) := by
  rw [eigval_eq_Tcoef, csqrt_sq]

/-- the same with `T_top` written out: `λ² = (Kx Lx² + Ky Ly² + i (u Lx + v Ly)) / Kz` at the top node -/
theorem eigval_sq (P : Profiles ℝ) (top : ℕ) (Lx Ly : ℝ) :
    (eigval RC P top Lx Ly) ^ 2 =
      ((P.Kx top * Lx ^ 2 + P.Ky top * Ly ^ 2 : ℝ) : ℂ) / (P.Kz top : ℂ)
        + Complex.I * ((P.u top * Lx + P.v top * Ly : ℝ) : ℂ) / (P.Kz top : ℂ) := by
  rw [eigval_sq_Tcoef, Tcoef_RC]
  ring

/-- the eigenvalue is the principal root, `Re λ ≥ 0`: the continuation `e^{-λ (z - z_top)}` does not grow -/
theorem eigval_decaying (P : Profiles ℝ) (top : ℕ) (Lx Ly : ℝ) :
    0 ≤ (eigval RC P top Lx Ly).re := by
  simp only [eigval]
  exact csqrt_re_nonneg _

/-- mean mode: the concentration of the horizontally constant component at node `l`
is `bg - q̂₀₀ · Σ_{i<l} dz_i (½/Kz_i + ½/Kz_{i+1})` (trapezoid resistance) -/
theorem mean_mode_trapezoid (P : Profiles ℝ) (z : ℕ → ℝ) (bg q00 : ℂ) (l : ℕ) :
    meanNum RC P z bg q00 l =
      bg - q00 * ((∑ i ∈ Finset.range l, (z (i + 1) - z i) * (1 / (2 * P.Kz i) + 1 / (2 * P.Kz (i + 1))) : ℝ) : ℂ) := by
  simp only [meanNum, resistNum, RC_ofReal]
  rw [sumN_lit_eq_sum]
  congr 3
  refine Finset.sum_congr rfl fun i _ => ?_
  rw [show (0.5 : ℝ) = 1 / 2 by norm_num, div_div, div_div]

/-- abstract one-step convergence (discrete Gronwall): local error `τ·dz_i` per layer and layer maps of norm at most
`1 + L·dz_i` give the global error `e_l ≤ exp(L (z_l - z_0)) · (e_0 + τ (z_l - z_0))`; stated for any sequence `e`
satisfying the one-step inequality -/
theorem one_step_convergence (e dz : ℕ → ℝ) (L τ : ℝ) (hL : 0 ≤ L) (hτ : 0 ≤ τ)
    (hdz : ∀ i, 0 ≤ dz i) (he0 : 0 ≤ e 0)
    (hstep : ∀ i, e (i + 1) ≤ (1 + L * dz i) * e i + τ * dz i) (l : ℕ) :
    e l ≤ Real.exp (L * ∑ i ∈ Finset.range l, dz i) * (e 0 + τ * ∑ i ∈ Finset.range l, dz i) := by
  have h := discrete_gronwall (u := e) (c := fun i => L * dz i) (b := fun i => τ * dz i) he0 (fun n _ => hstep n)
    (fun n _ => mul_nonneg hL (hdz n)) (fun n _ => mul_nonneg hτ (hdz n)) (Nat.zero_le l)
  rwa [Nat.Ico_zero_eq_range, ← Finset.mul_sum, ← Finset.mul_sum, mul_comm] at h

/-! the bottom condition on a concrete non-trivial input (oblique wind, anisotropic K, `Lx = 1, Ly = 2`, top node 0) -/
example : ∃ (P : Profiles ℝ) (z : ℕ → ℝ), P.u 0 ≠ P.u 1 ∧ P.Kx 0 ≠ P.Ky 0 ∧
    (columnNum RC P z 0 1 2 (3 : ℂ) 0).2 = 3 := by
  refine ⟨⟨fun i => 1 + i, fun _ => 2, fun _ => 1, fun _ => 3, fun _ => 2⟩, fun i => 1 + i, ?_, ?_, ?_⟩
  · norm_num
  · norm_num
  · exact column_bottom_flux _ _ _ _ _ _

end BLDFM.C01
