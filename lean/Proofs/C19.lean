/-
  C19 — the Kormann–Meixner reference equals its published closed form: crosswind-integrated footprint × Gaussian
  crosswind distribution × cell area; non-negative, zero downwind, symmetric about the wind axis; wind-direction rotation
  = rotation of the coordinates about the receptor; the roughness-length estimate inverts the diabatic log law; the
  stability functions agree with pbl_model's copies; the smoothing window of `estimateZ0` is circular.
-/
import BLDFM.KM
import Proofs.C09
import Mathlib.Analysis.SpecialFunctions.Complex.Arg
import Mathlib.Analysis.SpecialFunctions.Trigonometric.Basic

open BLDFM BLDFM.Spec

namespace BLDFM.C19

/-- published crosswind-integrated footprint, Eq. (21): `f^y(x) = ξ^μ e^{-ξ/x} / (Γ(μ) x^{1+μ})` -/
noncomputable def fy (Xi mu Gmu x : ℝ) : ℝ := Xi ^ mu * Real.exp (-Xi / x) / (Gmu * x ^ (1 + mu))

/-- effective plume velocity, Eq. (18): `ū(x) = U Γ(μ)/Γ(1/r) · (κ r² x / U)^{m/r}` -/
noncomputable def ubar (U kappa r mr Gmu Ginvr x : ℝ) : ℝ := U * Gmu / Ginvr * (kappa * r ^ 2 * x / U) ^ mr

/-- Gaussian crosswind distribution, Eq. (9): `D_y = exp(-y²/(2σ²)) / (√(2π) σ)`, `σ = σ_v x / ū(x)` -/
noncomputable def Dy (sigma y : ℝ) : ℝ := Real.exp (-(y ^ 2) / (2 * sigma ^ 2)) / (Real.sqrt (2 * Real.pi) * sigma)

/-- zero in downwind (and receptor-line) cells -/
theorem km_zero_downwind (p : KmPar ℝ) (res x y : ℝ) (hx : x ≤ 0) : kmCell RC p res x y = 0 := by
  rw [kmCell]
  norm_num [hx.not_gt]

theorem kmCell_of_pos (p : KmPar ℝ) (res y : ℝ) {x : ℝ} (hx : 0 < x) :
    kmCell RC p res x y = res ^ 2 * p.num * p.A * x ^ (p.mr - 2 - p.mu)
      * Real.exp (-p.Xi / x - 1 / 2 * (p.gmm * y * p.A * x ^ (p.mr - 1)) ^ 2) := by
  rw [kmCell, RC_rpow, RC_rpow, RC_exp]
  norm_num [hx]

theorem Dy_one_div {s : ℝ} (hs : s ≠ 0) (y : ℝ) :
    Dy (1 / s) y = s * Real.exp (-(1 / 2 * (s * y) ^ 2)) / Real.sqrt (2 * Real.pi) := by
  rw [Dy, show -(y ^ 2) / (2 * (1 / s) ^ 2) = -(1 / 2 * (s * y) ^ 2) by field_simp]
  field_simp

/-- the plume width `σ(x) = σ_v x / ū(x)` in the code's constants: `1 / (Γ(μ) A x^{m/r − 1})` -/
theorem plume_width (p : KmPar ℝ) {x sigmaV Ginvr : ℝ} (hx : 0 < x) (hU : 0 < p.U) (hk : 0 < p.kappa)
    (hr : 0 < p.r) (hs : 0 < sigmaV) (hG : 0 < p.gmm) (hGr : 0 < Ginvr)
    (hA : p.A = p.U / (Ginvr * sigmaV) * (p.kappa * p.r ^ 2 / p.U) ^ p.mr) :
    sigmaV * x / ubar p.U p.kappa p.r p.mr p.gmm Ginvr x = 1 / (p.gmm * p.A * x ^ (p.mr - 1)) := by
  have hbase : 0 < p.kappa * p.r ^ 2 / p.U := by positivity
  rw [ubar, hA, mul_div_right_comm (p.kappa * p.r ^ 2), Real.mul_rpow hbase.le hx.le, Real.rpow_sub_one hx.ne']
  field_simp

/-- the code's combined expression is, cell by cell, `res² · f^y(x) · D_y(x, y)`; `hA`, `hnum` are what `kmPar` assigns to
the fields `A`, `num` (with `Ginvr = Γ(1/r)`) -/
theorem km_cell_eq_published (p : KmPar ℝ) (res x y sigmaV Ginvr : ℝ)
    (hx : 0 < x) (hU : 0 < p.U) (hk : 0 < p.kappa) (hr : 0 < p.r) (hs : 0 < sigmaV)
    (hG : 0 < p.gmm) (hGr : 0 < Ginvr)
    (hA : p.A = p.U / (Ginvr * sigmaV) * (p.kappa * p.r ^ 2 / p.U) ^ p.mr)
    (hnum : p.num = 1 / Real.sqrt (2 * Real.pi) * p.Xi ^ p.mu) :
    kmCell RC p res x y =
      res ^ 2 * fy p.Xi p.mu p.gmm x * Dy (sigmaV * x / ubar p.U p.kappa p.r p.mr p.gmm Ginvr x) y := by
  have hA0 : 0 < p.A := by rw [hA]; positivity
  have hexp : Real.exp (-p.Xi / x - 1 / 2 * (p.gmm * y * p.A * x ^ (p.mr - 1)) ^ 2)
      = Real.exp (-p.Xi / x) * Real.exp (-(1 / 2 * (p.gmm * p.A * x ^ (p.mr - 1) * y) ^ 2)) := by
    rw [← Real.exp_add]
    congr 1
    ring
  have hpw : x ^ (p.mr - 2 - p.mu) = x ^ (p.mr - 1) / x ^ (1 + p.mu) := by
    rw [← Real.rpow_sub hx]
    congr 1
    ring
  rw [kmCell_of_pos p res y hx, hexp, hpw, plume_width p hx hU hk hr hs hG hGr hA, Dy_one_div (by positivity), fy, hnum]
  field_simp

/-- non-negative for non-negative constants -/
theorem km_nonneg (p : KmPar ℝ) (res x y : ℝ) (hnum : 0 ≤ p.num) (hA : 0 ≤ p.A) : 0 ≤ kmCell RC p res x y := by
  rcases lt_or_ge 0 x with hx | hx
  · rw [kmCell_of_pos p res y hx]
    positivity
  · rw [km_zero_downwind p res x y hx]

/-- symmetric about the wind axis -/
theorem km_symmetric_y (p : KmPar ℝ) (res x y : ℝ) : kmCell RC p res x (-y) = kmCell RC p res x y := by
  rcases lt_or_ge 0 x with hx | hx
  · rw [kmCell_of_pos p res _ hx, kmCell_of_pos p res _ hx, mul_neg, neg_mul, neg_mul, neg_sq]
  · rw [km_zero_downwind p res x _ hx, km_zero_downwind p res x _ hx]

/-- physically impossible `U < 0`: the whole footprint is empty -/
theorem km_negative_U_empty (zm z0 ws ustar L sigmaV res gx gy mx my : ℝ) (wd : Option ℝ)
    (hU : (kmPar RC zm z0 ws ustar L sigmaV).U < 0) :
    kmFootprint RC zm z0 ws ustar L sigmaV res gx gy mx my wd = 0 := by
  rw [kmFootprint]
  norm_num [hU]

/-- rotating the wind direction rotates the coordinates about the receptor: with a wind
direction the along/cross-wind coordinates are the rotation of `(gx - mx, gy - my)` by
`wd·π/180 − π/2`, for every angle -/
theorem km_rotation (gx gy mx my wd : ℝ) :
    let a := wd * (Real.pi / 180) - Real.pi / 2
    let x := gx - mx
    let y := gy - my
    kmCoords RC gx gy mx my (some wd) = (x * Real.cos a - y * Real.sin a, x * Real.sin a + y * Real.cos a) := by
  intro a x y
  set z : ℂ := ⟨x, y⟩
  have hnorm : Real.sqrt (x ^ 2 + y ^ 2) = ‖z‖ := by
    rw [Complex.norm_def, Complex.normSq_mk, ← sq, ← sq]
  have hang : z.arg + wd * (Real.pi / 180.0) - Real.pi * 0.5 = z.arg + a := by
    simp only [a]; norm_num; ring
  have hre : ‖z‖ * Real.cos z.arg = x := Complex.norm_mul_cos_arg z
  have him : ‖z‖ * Real.sin z.arg = y := Complex.norm_mul_sin_arg z
  simp only [kmCoords, RC_sqrt, RC_cos, RC_sin, RC_pi, RC_arctan2]
  rw [hnorm, hang, Real.cos_add, Real.sin_add, mul_sub, mul_add, ← mul_assoc, ← mul_assoc, ← mul_assoc, ← mul_assoc,
    hre, him, add_comm (y * Real.cos a)]

/-- without a wind direction the grid is already aligned: only the shift to the receptor -/
theorem km_no_rotation (gx gy mx my : ℝ) : kmCoords RC gx gy mx my none = (gx - mx, gy - my) := rfl

/-- whole multiples of 90°: the coordinate rotation is the exact cell permutation
`wd = 90 ↦ (x, y)`, `180 ↦ (-y, x)`, `270 ↦ (-x, -y)`, `0 ↦ (y, -x)` -/
theorem km_rotation_cardinals (gx gy mx my : ℝ) :
    let x := gx - mx
    let y := gy - my
    kmCoords RC gx gy mx my (some 90) = (x, y) ∧
    kmCoords RC gx gy mx my (some 180) = (-y, x) ∧
    kmCoords RC gx gy mx my (some 270) = (-x, -y) ∧
    kmCoords RC gx gy mx my (some 0) = (y, -x) := by
  intro x y
  have e90 : (90 : ℝ) * (Real.pi / 180) - Real.pi / 2 = 0 := by ring
  have e180 : (180 : ℝ) * (Real.pi / 180) - Real.pi / 2 = Real.pi / 2 := by ring
  have e270 : (270 : ℝ) * (Real.pi / 180) - Real.pi / 2 = Real.pi := by ring
  have e0 : (0 : ℝ) * (Real.pi / 180) - Real.pi / 2 = -(Real.pi / 2) := by ring
  refine ⟨?_, ?_, ?_, ?_⟩
  · simpa [e90, x, y] using km_rotation gx gy mx my 90
  · simpa [e180, x, y] using km_rotation gx gy mx my 180
  · simpa [e270, x, y] using km_rotation gx gy mx my 270
  · simpa [e0, x, y] using km_rotation gx gy mx my 0

/-- the power-law parameters are the paper's: `r = 2 + m − n`, `μ = (1 + m)/r`,
`ξ = U zm^r/(r² κ)`, `m = u* φ_m/(k ws)`, `κ = k u* zm/(φ_c zm^n)`, `U = u*(ln(zm/z0) + ψ_m)/(k zm^m)` -/
theorem km_params (zm z0 ws ustar L sigmaV : ℝ) :
    let p := kmPar RC zm z0 ws ustar L sigmaV
    p.r = 2 + p.m - p.n ∧ p.mu = (1 + p.m) / p.r ∧ p.Xi = p.U * zm ^ p.r / (p.r ^ 2 * p.kappa) ∧
    p.m = ustar * kmPhiM RC zm L / (0.4 * ws) ∧ p.kappa = 0.4 * zm * ustar / (kmPhiC RC zm L * zm ^ p.n) ∧
    p.U = ustar * (Real.log (zm / z0) + kmPsiM RC zm L) / (0.4 * zm ^ p.m) ∧ p.mr = p.m / p.r ∧
    p.gmm = Real.Gamma p.mu := by
  intro p
  simp only [p, kmPar, kmM, vonKarman, RC_rpow, RC_log, RC_gamma]
  refine ⟨?_, ?_, ?_, ?_, ?_, ?_, ?_, ?_⟩ <;> norm_num

theorem kmZ0_eq (zm ws ustar L : ℝ) :
    kmZ0 RC zm ws ustar L = zm * Real.exp (kmPsiM RC zm L - 0.4 * ws / ustar) := rfl

/-- the raw roughness length inverts the diabatic log law: `ws = (u*/k)(ln(zm/z0) + ψ_m)` -/
theorem z0_inverts_loglaw (zm ws ustar L : ℝ) (hzm : 0 < zm) (hus : ustar ≠ 0) :
    ustar / 0.4 * (Real.log (zm / kmZ0 RC zm ws ustar L) + kmPsiM RC zm L) = ws := by
  rw [kmZ0_eq, C09.log_div_mul_exp hzm.ne']
  field_simp
  ring

theorem kmPsiUnstable_eq (ξ : ℝ) : kmPsiUnstable RC ξ = C09.Fxi ξ := by
  rw [← C09.psiUnstable_eq_Fxi, kmPsiUnstable, psiUnstable, mul_comm RC.pi]

theorem kmPsiM_of_neg {zm L : ℝ} (hL : L < 0) : kmPsiM RC zm L = C09.Fxi ((1 - 16 * zm / L) ^ ((1 : ℝ) / 4)) := by
  rw [kmPsiM, kmPsiUnstable_eq, RC_rpow]
  norm_num [hL]

theorem kmPsiM_of_nonneg {zm L : ℝ} (hL : 0 ≤ L) : kmPsiM RC zm L = 5 * zm / L := by
  rw [kmPsiM]
  norm_num [hL, hL.not_gt]

theorem kmPhiC_of_neg {zm L : ℝ} (hL : L < 0) : kmPhiC RC zm L = (1 - 16 * zm / L) ^ (-(1 : ℝ) / 2) := by
  rw [kmPhiC, RC_rpow]
  norm_num [hL]

theorem kmPhiC_of_nonneg {zm L : ℝ} (hL : 0 ≤ L) : kmPhiC RC zm L = 1 + 5 * zm / L := by
  rw [kmPhiC]
  norm_num [hL, hL.not_gt]

/-- the stability functions of the reference model are those of the closure module
(`psi(zm/L) = ψ_m(zm, L)`, `phi(zm/L) = φ_c(zm, L)`) for `zm > 0`, `L ≠ 0` -/
theorem psi_eq_km_psiM (zm L : ℝ) (hzm : 0 < zm) (hL : L ≠ 0) : psi RC (zm / L) = kmPsiM RC zm L := by
  rcases lt_or_gt_of_ne hL with h | h
  · rw [C09.psi_unstable_eq (div_neg_of_pos_of_neg hzm h).le, kmPsiM_of_neg h, mul_div_assoc]
  · rw [C09.psi_of_pos (div_pos hzm h), kmPsiM_of_nonneg h.le, mul_div_assoc]

theorem phi_eq_km_phiC (zm L : ℝ) (hzm : 0 < zm) (hL : L ≠ 0) : phi RC (zm / L) = kmPhiC RC zm L := by
  rcases lt_or_gt_of_ne hL with h | h
  · rw [C09.phi_of_nonpos (div_neg_of_pos_of_neg hzm h).le, kmPhiC_of_neg h, mul_div_assoc]
  · rw [C09.phi_of_pos (div_pos hzm h), kmPhiC_of_nonneg h.le, mul_div_assoc]

/-- a half-open window `[lo, hi)` holds at most one of the shifts `x + P m` of `x` by whole periods when the
representative `x + P s` is within one period of both edges; then some shift is in the window iff that one is -/
theorem mem_window_iff_exists_shift {P lo hi x : ℝ} (hP : 0 < P) (s : ℤ)
    (h1 : hi - P ≤ x + P * s) (h2 : x + P * s < lo + P) :
    (lo ≤ x + P * s ∧ x + P * s < hi) ↔ ∃ m : ℤ, lo ≤ x + P * m ∧ x + P * m < hi := by
  refine ⟨fun h => ⟨s, h⟩, ?_⟩
  rintro ⟨m, a, b⟩
  have hms : m < s + 1 := by exact_mod_cast (lt_of_mul_lt_mul_left (by linarith) hP.le : (m : ℝ) < s + 1)
  have hsm : s < m + 1 := by exact_mod_cast (lt_of_mul_lt_mul_left (by linarith) hP.le : (s : ℝ) < m + 1)
  obtain rfl : m = s := by omega
  exact ⟨a, b⟩

theorem z0Wrap_spec (kk : ℕ) (hkk : kk < 360) (wd : ℝ) (hw0 : 0 ≤ wd) (hw : wd < 360) :
    ∃ s : ℤ, z0Wrap kk wd = wd + 360 * s ∧ |z0Wrap kk wd - kk| ≤ 270 := by
  have hk : (kk : ℝ) < 360 := by exact_mod_cast hkk
  -- the tests `kk < 90`, `kk > 270` on `ℕ` are moved to `ℝ`, where `hk` and the bounds on `wd` live
  simp only [z0Wrap, abs_le, ← Nat.cast_lt_ofNat (α := ℝ), gt_iff_lt, ← Nat.ofNat_lt_cast (α := ℝ)]
  norm_num only
  -- the branches of `z0Wrap`, in its order: `kk < 90` with `wd > 270` (shift −1) or not; `kk > 270` with `wd < 90`
  -- (shift +1) or not; `90 ≤ kk ≤ 270`
  split_ifs
  · exact ⟨-1, by push_cast; ring, by linarith, by linarith⟩
  · exact ⟨0, by simp, by linarith, by linarith⟩
  · exact ⟨1, by push_cast; ring, by linarith, by linarith⟩
  · exact ⟨0, by simp, by linarith, by linarith⟩
  · exact ⟨0, by simp, by linarith, by linarith⟩

theorem z0InWindow_iff (kk : ℕ) (h wd : ℝ) :
    z0InWindow RC kk h wd = true ↔ (kk : ℝ) - h ≤ z0Wrap kk wd ∧ z0Wrap kk wd < (kk : ℝ) + 1 + h := by
  rw [z0InWindow, Bool.and_eq_true, decide_eq_true_eq, decide_eq_true_eq, RC_natCast]
  norm_num only

/-- the smoothing window of `estimateZ0` is the circular window `[kk − h, kk + 1 + h)` modulo 360: the
wrap thresholds (90 / 270) and the inclusive lower / exclusive upper edge select exactly the observations
whose direction, shifted by a whole number of turns, falls in the window (half width `h ≤ 89`) -/
theorem z0_window_circular (kk : ℕ) (hkk : kk < 360) (h wd : ℝ) (hh0 : 0 ≤ h) (hh : h ≤ 89)
    (hw0 : 0 ≤ wd) (hw : wd < 360) :
    z0InWindow RC kk h wd = true ↔
      ∃ m : ℤ, (kk : ℝ) - h ≤ wd + 360 * m ∧ wd + 360 * m < (kk : ℝ) + 1 + h := by
  obtain ⟨s, hs, hclose⟩ := z0Wrap_spec kk hkk wd hw0 hw
  rw [hs, abs_le] at hclose
  rw [z0InWindow_iff, hs]
  -- 270 + 89 + 1 = 360: the window edges stay within one turn of the unwrapped direction
  exact mem_window_iff_exists_shift (by norm_num) s (by linarith) (by linarith)

/-- hence a common whole-degree rotation of all wind directions rotates bins and windows together: an
observation is in the window of bin `kk` iff the rotated observation is in the window of the rotated bin -/
theorem z0_window_rotation (kk kk' : ℕ) (hkk : kk < 360) (hkk' : kk' < 360) (h wd wd' : ℝ) (hh0 : 0 ≤ h) (hh : h ≤ 89)
    (hw0 : 0 ≤ wd) (hw : wd < 360) (hw0' : 0 ≤ wd') (hw' : wd' < 360) (rho : ℤ) (mk mw : ℤ)
    (hk : (kk' : ℝ) = kk + rho + 360 * mk) (hwd : wd' = wd + rho + 360 * mw) :
    z0InWindow RC kk' h wd' = z0InWindow RC kk h wd := by
  rw [Bool.eq_iff_iff, z0_window_circular kk' hkk' h wd' hh0 hh hw0' hw', z0_window_circular kk hkk h wd hh0 hh hw0 hw,
    hk, hwd]
  constructor
  · rintro ⟨m, a, b⟩
    exact ⟨m + mw - mk, by push_cast; linarith, by push_cast; linarith⟩
  · rintro ⟨m, a, b⟩
    exact ⟨m - mw + mk, by push_cast; linarith, by push_cast; linarith⟩

end BLDFM.C19
