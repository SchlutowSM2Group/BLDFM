/-
  C08 — "the footprint … lies upwind of the tower", per Fourier component for height-independent profiles.  The flux Green's
  function of a non-constant component is `e^{-λ h}` with the principal root `λ = √((Kx Lx² + Ky Ly² + i (u Lx + v Ly)) / Kz)`
  (`C05.analytic_is_closed_form`); in footprint mode it contributes the plane wave `A e^{-Re λ · h} · cos(L · (r − r_tower) + Im λ · h)`
  (the forward transform of solver.py 282-285 supplies the `e^{-i L·(r − r_tower)}`).  `Im λ` has the sign of `U · L`, so the crest
  nearest to the tower, at `d* = −(Im λ · h / |L|²) · L`, has `U · d* ≤ 0`: with `wind_from_bearing` that is the bearing `wd` as
  seen from the tower.  Outside: that the centre of mass of the whole (cropped) footprint lies within a few degrees of the wind
  direction for sheared profiles stays a numeric clause (oracle).
-/
import Proofs.Lemmas.Csqrt

open BLDFM BLDFM.Spec

namespace BLDFM.C08

/-- a non-real radicand has a root whose imaginary part has strictly the same sign: `w = λ²` gives `Im w = 2 Re λ · Im λ`, and
the principal root has `Re λ ≥ 0` -/
theorem csqrt_im_sign_strict (w : ℂ) (him : w.im ≠ 0) : 0 < (RC.csqrt w).im * w.im := by
  have hsq : w.im = 2 * (RC.csqrt w).re * (RC.csqrt w).im := by
    conv_lhs => rw [← csqrt_sq w, sq, Complex.mul_im]
    ring
  have hre : 0 < (RC.csqrt w).re :=
    lt_of_le_of_ne (csqrt_re_nonneg w) fun h0 => him (by rw [hsq, ← h0, mul_zero, zero_mul])
  have him' : (RC.csqrt w).im ≠ 0 := fun h0 => him (by rw [hsq, h0, mul_zero])
  calc 0 < 2 * (RC.csqrt w).re * ((RC.csqrt w).im * (RC.csqrt w).im) := mul_pos (mul_pos two_pos hre) (mul_self_pos.2 him')
    _ = (RC.csqrt w).im * (2 * (RC.csqrt w).re * (RC.csqrt w).im) := by ring
    _ = (RC.csqrt w).im * w.im := by rw [← hsq]

/-- the imaginary part of the principal root has the sign of the radicand's imaginary part (for every `w`: `hre` is
not used) -/
theorem csqrt_im_sign (w : ℂ) (hre : 0 ≤ w.re) : 0 ≤ (RC.csqrt w).im * w.im := by
  by_cases him : w.im = 0
  · rw [him, mul_zero]
  · exact (csqrt_im_sign_strict w him).le

theorem eigval_im_sign_strict (P : Profiles ℝ) (top : ℕ) (Lx Ly : ℝ) (hKz : 0 < P.Kz top)
    (hUL : P.u top * Lx + P.v top * Ly ≠ 0) :
    0 < (eigval RC P top Lx Ly).im * (P.u top * Lx + P.v top * Ly) := by
  have him : (-Tcoef RC P Lx Ly top / (P.Kz top : ℂ)).im = (P.u top * Lx + P.v top * Ly) / P.Kz top := by
    rw [Complex.div_ofReal_im, Complex.neg_im, Tcoef_im, neg_neg]
  have h := csqrt_im_sign_strict _ (him.trans_ne (div_ne_zero hUL hKz.ne'))
  rw [him, ← mul_div_assoc] at h
  rw [eigval_eq_Tcoef]
  exact (div_pos_iff_of_pos_right hKz).mp h

/-- **`Im λ` has the sign of `U · L`**: for positive vertical diffusivity at the top node the vertical eigenvalue's
imaginary part has the sign of the wind's component along the wave vector (`hKx`, `hKy` are not used) -/
theorem eigval_im_sign (P : Profiles ℝ) (top : ℕ) (Lx Ly : ℝ)
    (hKz : 0 < P.Kz top) (hKx : 0 ≤ P.Kx top) (hKy : 0 ≤ P.Ky top) :
    0 ≤ (eigval RC P top Lx Ly).im * (P.u top * Lx + P.v top * Ly) := by
  by_cases hUL : P.u top * Lx + P.v top * Ly = 0
  · rw [hUL, mul_zero]
  · exact (eigval_im_sign_strict P top Lx Ly hKz hUL).le

/-- **the plane wave a Fourier component contributes to the footprint**: amplitude `A e^{-Re λ h}`, phase
`L · d + Im λ · h` at the offset `d = r − r_tower` -/
theorem mode_wave (A h Lx Ly dx dy : ℝ) (lam : ℂ) :
    ((A : ℂ) * Complex.exp (-Complex.I * ((Lx * dx + Ly * dy : ℝ) : ℂ)) * Complex.exp (-lam * (h : ℂ))).re
      = A * Real.exp (-lam.re * h) * Real.cos (Lx * dx + Ly * dy + lam.im * h) := by
  have hre : (-Complex.I * ((Lx * dx + Ly * dy : ℝ) : ℂ) + -lam * (h : ℂ)).re = -lam.re * h := by simp
  have him : (-Complex.I * ((Lx * dx + Ly * dy : ℝ) : ℂ) + -lam * (h : ℂ)).im = -(Lx * dx + Ly * dy + lam.im * h) := by
    simp
    ring
  rw [mul_assoc, ← Complex.exp_add, Complex.re_ofReal_mul, Complex.exp_re, hre, him, Real.cos_neg, mul_assoc]

/-- the crest of the component nearest to the tower: at `d* = −(Im λ · h / |L|²) · L` the phase vanishes -/
theorem mode_crest (h Lx Ly : ℝ) (lam : ℂ) (hL : Lx ^ 2 + Ly ^ 2 ≠ 0) :
    Lx * (-(lam.im * h / (Lx ^ 2 + Ly ^ 2)) * Lx) + Ly * (-(lam.im * h / (Lx ^ 2 + Ly ^ 2)) * Ly) + lam.im * h = 0 := by
  field_simp; ring

theorem wind_dot_crest (u v Lx Ly h m : ℝ) :
    u * (-(m * h / (Lx ^ 2 + Ly ^ 2)) * Lx) + v * (-(m * h / (Lx ^ 2 + Ly ^ 2)) * Ly)
      = -(m * (u * Lx + v * Ly) * h / (Lx ^ 2 + Ly ^ 2)) := by
  ring

/-- **every Fourier component of the footprint is displaced against the wind**: `U · d* ≤ 0` -/
theorem mode_crest_upwind (P : Profiles ℝ) (top : ℕ) (Lx Ly h : ℝ)
    (hKz : 0 < P.Kz top) (hKx : 0 ≤ P.Kx top) (hKy : 0 ≤ P.Ky top) (hh : 0 ≤ h) :
    let lam := eigval RC P top Lx Ly
    P.u top * (-(lam.im * h / (Lx ^ 2 + Ly ^ 2)) * Lx) + P.v top * (-(lam.im * h / (Lx ^ 2 + Ly ^ 2)) * Ly) ≤ 0 := by
  intro lam
  rw [wind_dot_crest, neg_nonpos]
  exact div_nonneg (mul_nonneg (eigval_im_sign P top Lx Ly hKz hKx hKy) hh) (by positivity)

/-- … strictly, when the wind has a component along the wave vector and the level is above the surface -/
theorem mode_crest_upwind_strict (P : Profiles ℝ) (top : ℕ) (Lx Ly h : ℝ)
    (hKz : 0 < P.Kz top) (hKx : 0 ≤ P.Kx top) (hKy : 0 ≤ P.Ky top) (hh : 0 < h)
    (hUL : P.u top * Lx + P.v top * Ly ≠ 0) :
    let lam := eigval RC P top Lx Ly
    P.u top * (-(lam.im * h / (Lx ^ 2 + Ly ^ 2)) * Lx) + P.v top * (-(lam.im * h / (Lx ^ 2 + Ly ^ 2)) * Ly) < 0 := by
  intro lam
  have hL : 0 < Lx ^ 2 + Ly ^ 2 := by
    rcases eq_or_ne Lx 0 with rfl | hx
    · have hy : Ly ≠ 0 := fun h0 => hUL (by rw [h0]; ring)
      positivity
    · positivity
  rw [wind_dot_crest, neg_lt_zero]
  exact div_pos (mul_pos (eigval_im_sign_strict P top Lx Ly hKz hUL) hh) hL

/-- the model's footprint-mode flux coefficient of a non-constant slot in the analytic branch (double precision):
`S · e^{-λ h}` times the shift of the Green's function to the tower's cell of the padded grid -/
theorem footprint_coef_analytic (req : SolveReq ℝ) (hp : req.precision = .double) (han : req.analytic = true)
    (hfp : req.footprint = true) (g : Geom ℝ) (S : ℕ → ℕ → ℂ) (l a b : ℕ) (hab : ¬(a = 0 ∧ b = 0)) :
    (modeCoef RC req g S l a b).2 * shiftFactor RC req g a b =
      S a b * Complex.exp (-(eigval RC req.P (req.nz - 1) (waveX RC g b) (waveY RC g a)) * ((req.z l - req.z 0 : ℝ) : ℂ))
        * Complex.exp (Complex.I * ((waveX RC g b * (req.xm + (g.px : ℝ) * g.dx) + waveY RC g a * (req.ym + (g.py : ℝ) * g.dy) : ℝ) : ℂ)) := by
  simp only [modeCoef, if_neg hab, storeP, hp, han, if_true, columnAna, shiftFactor, hfp, RC_cexp, RC_ofReal, RC_I, RC_natCast]

/-- non-vacuity: a westerly wind (`u > 0`), a wave vector along `+x`: `Im λ > 0` -/
example : 0 < (eigval RC ⟨fun _ => 3, fun _ => 0, fun _ => 1, fun _ => 1, fun _ => 1⟩ 0 1 0).im * (3 * 1 + 0 * 0) :=
  eigval_im_sign_strict ⟨fun _ => 3, fun _ => 0, fun _ => 1, fun _ => 1, fun _ => 1⟩ 0 1 0 (by norm_num) (by norm_num)

end BLDFM.C08
