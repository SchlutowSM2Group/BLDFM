/-
  C16 — met time series: one step per list entry, scalars broadcast, mismatches rejected.
-/
import BLDFM.Met
import Mathlib.Tactic.Common

open BLDFM BLDFM.MetCfg

namespace BLDFM.C16

theorem bind_eq_ok {ε α β : Type} {x : Except ε α} {f : α → Except ε β} {b : β} (h : x >>= f = .ok b) :
    ∃ a, x = .ok a ∧ f a = .ok b := by
  cases x with
  | error e => cases h
  | ok a => exact ⟨a, rfl, h⟩

/-- `n` is the common length of the list-valued fields (one if there is none) -/
def CommonLen (m : MetCfg) (n : ℕ) : Prop :=
  (∀ v ∈ m.fields, ∀ xs, v = MetVal.list xs → xs.length = n) ∧
  ((∀ v ∈ m.fields, ∀ xs, v ≠ MetVal.list xs) → n = 1)

theorem listLen?_eq_some {v : MetVal} {k : ℕ} : v.listLen? = some k ↔ ∃ xs, v = .list xs ∧ xs.length = k := by
  cases v <;> simp [MetVal.listLen?]

theorem forall_listLens (vs : List MetVal) (p : ℕ → Prop) :
    (∀ k ∈ vs.filterMap MetVal.listLen?, p k) ↔ ∀ v ∈ vs, ∀ xs, v = MetVal.list xs → p xs.length := by
  simp only [List.mem_filterMap, listLen?_eq_some]
  constructor
  · rintro h v hv xs rfl
    exact h _ ⟨_, hv, xs, rfl, rfl⟩
  · rintro h k ⟨v, hv, xs, rfl, rfl⟩
    exact h _ hv xs rfl

theorem allEq_iff (l : List ℕ) (n d : ℕ) :
    (∀ k ∈ l, k = n) ∧ (l = [] → n = d) ↔ allEq l = true ∧ l.headD d = n := by
  cases l with
  | nil => simp [allEq, eq_comm]
  | cons a t =>
    simp only [allEq, List.all_eq_true, beq_iff_eq, List.headD_cons, List.forall_mem_cons, reduceCtorEq,
      false_imp_iff, and_true]
    constructor
    · rintro ⟨rfl, h⟩
      exact ⟨h, rfl⟩
    · rintro ⟨h, rfl⟩
      exact ⟨rfl, h⟩

theorem commonLen_iff (m : MetCfg) (n : ℕ) :
    CommonLen m n ↔ allEq m.listLens = true ∧ m.listLens.headD 1 = n := by
  -- `allEq_iff` leaves two statements about all list lengths (each equals `n`; there is none ⇒ `n = 1`);
  -- `forall_listLens` turns each into one about the fields, the second at `p := fun _ => False`
  rw [← allEq_iff _ _ 1, listLens, List.eq_nil_iff_forall_not_mem, forall_listLens, forall_listLens]
  simp only [CommonLen, imp_false]

theorem nTimesteps_eq (m : MetCfg) : m.nTimesteps = m.listLens.headD 1 := by
  unfold nTimesteps
  cases m.listLens <;> rfl

/-- the number of time steps is the common length of the list-valued fields, or one -/
theorem nTimesteps_spec (m : MetCfg) (n : ℕ) (h : CommonLen m n) : m.nTimesteps = n :=
  (nTimesteps_eq m).trans ((commonLen_iff m n).1 h).2

theorem validate_iff (m : MetCfg) :
    m.validate = true ↔ (m.ustar ≠ MetVal.none ∨ m.z0 ≠ none) ∧ allEq m.listLens = true ∧
      ∀ t, m.timestamps = some t → t.length = m.listLens.headD 1 := by
  unfold validate
  rw [← not_and_or]
  generalize m.listLens = l
  by_cases hu : m.ustar = MetVal.none ∧ m.z0 = none
  · simp [hu]
  cases ha : allEq l
  · simp [hu, ha]
  cases m.timestamps with
  | none => simp [hu, ha]
  | some t => cases l <;> simp [hu, ha]

/-- a forcing is accepted exactly when it provides a friction velocity or a roughness length,
all list-valued fields share one length `n` (`n = 1` if none is a list), and the timestamps,
if given, have that length -/
theorem validate_ok_iff (m : MetCfg) :
    m.validate = true ↔
      (m.ustar ≠ MetVal.none ∨ m.z0 ≠ none) ∧
      ∃ n, CommonLen m n ∧ ∀ t, m.timestamps = some t → t.length = n := by
  simp only [validate_iff, commonLen_iff, and_assoc, exists_and_left, exists_eq_left']

/-- `_get(val, i)` inside the common length: the `i`-th entry of a list, the value of a scalar -/
theorem getVal_spec (v : MetVal) (n i : ℕ) (hi : i < n) (hv : ∀ xs, v = .list xs → xs.length = n) :
    ∃ r, getVal v i = .ok r ∧ (∀ xs, v = .list xs → r = xs[i]?) ∧ (∀ x, v = .scalar x → r = some x) := by
  cases v with
  | none => exact ⟨none, rfl, nofun, nofun⟩
  | scalar x => exact ⟨some x, rfl, nofun, fun _ h => by cases h; rfl⟩
  | list xs =>
    have hlen : i < xs.length := hv xs rfl ▸ hi
    refine ⟨xs[i]?, ?_, fun _ h => by cases h; rfl, nofun⟩
    simp [getVal, List.getElem?_eq_getElem hlen]

/-- step `i` takes the `i`-th entry of every list and the value of every scalar field, the
`i`-th timestamp or else the index `i`; the roughness length is passed through -/
theorem getStep_spec (m : MetCfg) (n i : ℕ) (h : CommonLen m n) (hi : i < n)
    (hts : ∀ t, m.timestamps = some t → t.length = n) :
    ∃ s, m.getStep i = .ok s ∧
      (∀ xs, m.ustar = .list xs → s.ustar = xs[i]?) ∧ (∀ x, m.ustar = .scalar x → s.ustar = some x) ∧
      (∀ xs, m.mol = .list xs → s.mol = xs[i]?) ∧ (∀ x, m.mol = .scalar x → s.mol = some x) ∧
      (∀ xs, m.windSpeed = .list xs → s.windSpeed = xs[i]?) ∧ (∀ x, m.windSpeed = .scalar x → s.windSpeed = some x) ∧
      (∀ xs, m.windDir = .list xs → s.windDir = xs[i]?) ∧ (∀ x, m.windDir = .scalar x → s.windDir = some x) ∧
      s.z0 = m.z0 ∧
      (∀ t, m.timestamps = some t → ∃ x, t[i]? = some x ∧ s.timestamp = Sum.inl x) ∧
      (m.timestamps = none → s.timestamp = Sum.inr i) := by
  have hf : ∀ v ∈ m.fields, _ := fun v hv => getVal_spec v n i hi (h.1 v hv)
  simp only [fields, List.forall_mem_cons, List.not_mem_nil, false_imp_iff, implies_true, and_true] at hf
  obtain ⟨⟨r1, g1, p1, q1⟩, ⟨r2, g2, p2, q2⟩, ⟨r3, g3, p3, q3⟩, ⟨r4, g4, p4, q4⟩⟩ := hf
  cases ht : m.timestamps with
  | none =>
    refine ⟨⟨r1, r2, r3, r4, m.z0, Sum.inr i⟩, ?_, p1, q1, p2, q2, p3, q3, p4, q4, rfl, nofun, fun _ => rfl⟩
    simp only [getStep, g1, g2, g3, g4, ht]
    rfl
  | some t =>
    have hlen : i < t.length := hts t ht ▸ hi
    refine ⟨⟨r1, r2, r3, r4, m.z0, Sum.inl t[i]⟩, ?_, p1, q1, p2, q2, p3, q3, p4, q4, rfl, ?_, nofun⟩
    · simp only [getStep, g1, g2, g3, g4, ht, List.getElem?_eq_getElem hlen]
      rfl
    · rintro _ ⟨⟩
      exact ⟨t[i], List.getElem?_eq_getElem hlen, rfl⟩

/-- the roughness length is part of a step iff it is configured (the code omits the key otherwise) -/
theorem z0_present_iff (m : MetCfg) (i : ℕ) (s : MetStep) (h : m.getStep i = .ok s) :
    s.z0.isSome ↔ m.z0.isSome := by
  unfold getStep at h
  obtain ⟨_, -, h⟩ := bind_eq_ok h
  obtain ⟨_, -, h⟩ := bind_eq_ok h
  obtain ⟨_, -, h⟩ := bind_eq_ok h
  obtain ⟨_, -, h⟩ := bind_eq_ok h
  split at h
  · split at h
    · cases h; rfl
    · cases h
  · cases h; rfl

/-! non-vacuity: a series that varies only `mol` and `windDir` (`ustar`, `windSpeed` scalar) is accepted and has two
steps; a count that looks at `ustar` and `windSpeed` alone gives one (defect D6, DESIGN.md §5 and §9.6) -/
example :
    let m : MetCfg := ⟨.scalar 3, .list [-100, -50], .scalar 5, .list [270, 180], none, none⟩
    m.validate = true ∧ m.nTimesteps = 2 ∧ CommonLen m 2 := by
  exact ⟨by decide, by decide, (commonLen_iff _ _).2 (by decide)⟩

end BLDFM.C16
