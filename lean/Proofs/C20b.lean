/-
  C20 (defining clause with the tie freedom made explicit) — for a non-negative footprint `f` and any sorting
  permutation `σ` of the cells by decreasing `g`, the rescaled value of a cell lies between the sum of `f` over the
  cells with strictly larger `g` and the sum over the other cells with larger-or-equal `g`:
      Σ_{g c' > g c} f c'  ≤  out c  ≤  Σ_{c' ≠ c, g c' ≥ g c} f c'.
  Without ties both bounds coincide: `out c` is the sum of `f` over the cells whose `g` is larger.
-/
import Proofs.C20

open BLDFM

namespace BLDFM.C20

theorem rescaled_tie_bounds (f g : ℕ → ℝ) (hf : ∀ c, 0 ≤ f c) (σ : List ℕ) (hnd : σ.Nodup)
    (hsorted : ∀ a b, ∀ hab : a ≤ b, ∀ hb : b < σ.length, g (σ[b]) ≤ g (σ[a]'(by omega)))
    (k : ℕ) (hk : k < σ.length) :
    (∑ l ∈ (Finset.range σ.length).filter (fun l => g (σ[k]) < g (σ.getD l 0)), f (σ.getD l 0)) ≤ rescaled f σ (σ[k]) ∧
    rescaled f σ (σ[k]) ≤
      ∑ l ∈ (Finset.range σ.length).filter (fun l => l ≠ k ∧ g (σ[k]) ≤ g (σ.getD l 0)), f (σ.getD l 0) := by
  rw [rescaled_eq_prefix_sum f σ hnd k hk]
  constructor
  · refine Finset.sum_le_sum_of_subset_of_nonneg (fun l hl => ?_) fun l _ _ => hf _
    obtain ⟨hl, hlt⟩ := Finset.mem_filter.1 hl
    rw [Finset.mem_range] at hl ⊢
    rw [List.getD_eq_getElem σ 0 hl] at hlt
    exact not_le.1 fun hkl => (hsorted k l hkl hl).not_gt hlt
  · refine Finset.sum_le_sum_of_subset_of_nonneg (fun l hl => ?_) fun l _ _ => hf _
    rw [Finset.mem_range] at hl
    rw [Finset.mem_filter, Finset.mem_range, List.getD_eq_getElem σ 0 (hl.trans hk)]
    exact ⟨hl.trans hk, hl.ne, hsorted l k hl.le hk⟩

/-- without ties at the cell the two bounds coincide: the rescaled value is the sum of `f` over the cells whose `g`
is strictly larger -/
theorem rescaled_eq_strict_sum (f g : ℕ → ℝ) (hf : ∀ c, 0 ≤ f c) (σ : List ℕ) (hnd : σ.Nodup)
    (hsorted : ∀ a b, ∀ hab : a ≤ b, ∀ hb : b < σ.length, g (σ[b]) ≤ g (σ[a]'(by omega)))
    (k : ℕ) (hk : k < σ.length) (hnotie : ∀ l, ∀ hl : l < σ.length, l ≠ k → g (σ[l]) ≠ g (σ[k])) :
    rescaled f σ (σ[k]) = ∑ l ∈ (Finset.range σ.length).filter (fun l => g (σ[k]) < g (σ.getD l 0)), f (σ.getD l 0) := by
  obtain ⟨hlo, hhi⟩ := rescaled_tie_bounds f g hf σ hnd hsorted k hk
  refine le_antisymm (hhi.trans_eq (Finset.sum_congr (Finset.filter_congr fun l hl => ?_) fun _ _ => rfl)) hlo
  -- untied at `k`: `l ≠ k` with `g` at least as large is `g` strictly larger
  have hl := Finset.mem_range.1 hl
  rw [List.getD_eq_getElem σ 0 hl]
  refine ⟨fun h => lt_of_le_of_ne h.2 (hnotie l hl h.1).symm, fun h => ⟨?_, h.le⟩⟩
  rintro rfl
  exact lt_irrefl _ h

/-! `hnd` and `hsorted` hold for three cells with `g = (3, 1, 2)` in the order `[0, 2, 1]` -/
example : ([0, 2, 1] : List ℕ).Nodup ∧
    (∀ a b, ∀ hab : a ≤ b, ∀ hb : b < ([0, 2, 1] : List ℕ).length,
      (fun c : ℕ => if c = 0 then (3 : ℝ) else if c = 1 then 1 else 2) (([0, 2, 1] : List ℕ)[b]) ≤
      (fun c : ℕ => if c = 0 then (3 : ℝ) else if c = 1 then 1 else 2) (([0, 2, 1] : List ℕ)[a]'(by omega))) := by
  refine ⟨by decide, ?_⟩
  intro a b hab hb
  simp only [List.length_cons, List.length_nil] at hb
  interval_cases b <;> interval_cases a <;> simp <;> norm_num

end BLDFM.C20
