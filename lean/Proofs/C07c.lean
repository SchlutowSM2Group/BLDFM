/-
  C07 (field level, whole model pipeline) — velocity similarity: multiplying winds and all diffusivities by a common
  factor `s ≠ 0` (and the background concentration by `1/s`) leaves the flux field unchanged and divides the
  concentration field by `s`, at every level and cell, in both modes, numeric and analytic.
-/
import Proofs.C02
import Proofs.C07
import Proofs.Lemmas.Witness

open BLDFM BLDFM.Spec BLDFM.Index

namespace BLDFM.C07

/-- `r'` is `r` with winds and diffusivities times `s`, background divided by `s` -/
def VelScaled (s : ℝ) (r r' : SolveReq ℝ) : Prop :=
  r' = { r with P := scaleUK s r.P, bg := r.bg / s }

theorem resistNum_velocity (P : Profiles ℝ) (z : ℕ → ℝ) (s : ℝ) (hs : s ≠ 0) (l : ℕ) :
    resistNum (scaleUK s P) z l = resistNum P z l / s :=
  resistNum_similarity hs (scaleUK_Kz s P) (fun _ => (one_mul _).symm) one_ne_zero l

theorem columnAna_velocity (P : Profiles ℝ) (z : ℕ → ℝ) (top : ℕ) (Lx Ly s : ℝ) (hs : s ≠ 0) (qh : ℂ) (l : ℕ) :
    columnAna RC (scaleUK s P) z top Lx Ly qh l =
      ((columnAna RC P z top Lx Ly qh l).1 / (s : ℂ), (columnAna RC P z top Lx Ly qh l).2) :=
  column_similarity hs (Tcoef_velocity P Lx Ly s) (scaleUK_Kz s P) (fun _ => (one_mul _).symm) one_pos
    true top qh l

/-- the spectral coefficients: concentration divided by `s`, flux unchanged -/
theorem vel_modeCoef (s : ℝ) (hs : s ≠ 0) (r r' : SolveReq ℝ) (h : VelScaled s r r') (S : ℕ → ℕ → ℂ) (l a b : ℕ) :
    modeCoef RC r' (geom RC r) S l a b =
      ((modeCoef RC r (geom RC r) S l a b).1 / (s : ℂ), (modeCoef RC r (geom RC r) S l a b).2) := by
  have hP : r'.P = scaleUK s r.P := congrArg (·.P) h
  have han : r'.analytic = r.analytic := congrArg (·.analytic) h
  have hnz : r'.nz = r.nz := congrArg (·.nz) h
  have hz : ∀ i, r'.z i = 1 * r.z i := fun i => (congrFun (congrArg (·.z) h) i).trans (one_mul _).symm
  have hK : ∀ i, r'.P.Kz i = s * 1 * r.P.Kz i := fun i => by
    rw [hP]
    exact scaleUK_Kz s r.P i
  have hbg : r'.bg = r.bg / s := congrArg (·.bg) h
  have hT : ∀ i, Tcoef RC r'.P (waveX RC (geom RC r) b) (waveY RC (geom RC r) a) i
      = (s : ℂ) / ((1 : ℝ) : ℂ) * Tcoef RC r.P (waveX RC (geom RC r) b) (waveY RC (geom RC r) a) i := fun i => by
    rw [hP]
    exact Tcoef_velocity _ _ _ s i
  have := modeCoef_similarity (r := r) (r' := r') (g := geom RC r) (g' := geom RC r) (a := a) (b := b) (μ := s) (γ := 1)
    (hμ := hs) (hγ := one_pos) (han := han) (hnz := hnz) (hz := hz) (hK := hK) (hbg := hbg) (h0 := Iff.rfl) (hT := hT)
    (hS := (one_mul (S a b)).symm) (hχ := fun _ => rfl) l
  rwa [one_smul] at this

/-- velocity similarity, whole pipeline: the flux field is unchanged, the concentration field is divided by `s` -/
theorem velocity_similarity_field (s : ℝ) (hs : s ≠ 0) (r r' : SolveReq ℝ) (h : VelScaled s r r')
    (hg : GeomOK (geom RC r)) (hp : r.precision = .double) (hden : C02.DenOK r) (l J I : ℕ) :
    (fieldsAt RC r' (geom RC r') (srcSpectrum RC r' (geom RC r')).get l).1.get J I
      = (fieldsAt RC r (geom RC r) (srcSpectrum RC r (geom RC r)).get l).1.get J I / (s : ℂ) ∧
    (fieldsAt RC r' (geom RC r') (srcSpectrum RC r' (geom RC r')).get l).2.get J I
      = (fieldsAt RC r (geom RC r) (srcSpectrum RC r (geom RC r)).get l).2.get J I := by
  have e' : r' = { r with P := scaleUK s r.P, bg := r.bg / s } := h
  have g' : geom RC r' = geom RC r := by rw [e']; rfl
  have hS : srcSpectrum RC r' (geom RC r) = srcSpectrum RC r (geom RC r) := by rw [e']; rfl
  have hsh : ∀ a b, shiftFactor RC r' (geom RC r) a b = shiftFactor RC r (geom RC r) a b := fun a b => by rw [e']; rfl
  have hfp : r'.footprint = r.footprint := by rw [e']
  have hT : ∀ a < (geom RC r).nly, ∀ b < (geom RC r).nlx, coefTab r' (geom RC r) (srcSpectrum RC r (geom RC r)).get l a b
      = ((coefTab r (geom RC r) (srcSpectrum RC r (geom RC r)).get l a b).1 / (s : ℂ),
         (coefTab r (geom RC r) (srcSpectrum RC r (geom RC r)).get l a b).2) := fun a _ b _ => by
    rw [coefTab, coefTab, vel_modeCoef s hs r r' h, hsh]
    exact Prod.ext (mul_div_assoc _ _ _).symm rfl
  rw [g', hS]
  refine Prod.mk.inj ?_
  rw [fieldsAt_trig r' _ hg, trig_congr hT, trig_fst_div, hfp, ← fieldsAt_trig r _ hg]

/-! non-vacuity: the hypotheses are met by a concrete pair of requests with different profiles -/
example : ∃ r r' : SolveReq ℝ, VelScaled 3 r r' ∧ GeomOK (geom RC r) ∧ r.precision = .double ∧ C02.DenOK r ∧ r'.P ≠ r.P := by
  refine ⟨Witness.wreq false, { Witness.wreq false with P := scaleUK 3 (Witness.wreq false).P, bg := (Witness.wreq false).bg / 3 },
    rfl, Witness.wreq_geomOK false, rfl, Witness.wreq_denOK false, ?_⟩
  intro hh
  have := congrArg (fun P : Profiles ℝ => P.u 0) hh
  simp [scaleUK, Witness.wreq] at this

end BLDFM.C07
