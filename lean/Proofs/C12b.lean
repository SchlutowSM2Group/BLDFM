/-
  C12 (precision clause) — "single precision differs from double precision only by storage rounding".
  In the code `precision="single"` only selects the storage type of the two spectral arrays (solver.py 181-193): every
  coefficient is computed in double precision and rounded when it is stored.  The model carries that rounding as the
  field `store32` of the function record (`storeP`), the identity in `RC`.  Here it is an arbitrary `σ : ℂ → ℂ` (`RCs σ`)
  with `‖σ c − c‖ ≤ ε ‖c‖` (IEEE single, each component rounded with unit roundoff `2⁻²⁴`: `ε = 2⁻²⁴`).
  The analytic branch of the code rounds the concentration coefficient twice (it is derived from the stored flux
  coefficient); the model rounds once, and `double_rounding` gives `2ε + ε²` for that table.  The property's figure
  "1e-5 of the field maximum" relates the `ℓ¹` norm to the field maximum, depends on the source, and stays with the oracle.
-/
import Proofs.Lemmas.Trig

open BLDFM BLDFM.Spec BLDFM.Index

namespace BLDFM.C12

/-- the exact-arithmetic function record with an arbitrary storage-rounding function -/
noncomputable def RCs (σ : ℂ → ℂ) : Fns ℝ ℂ := { RC with store32 := σ }

/-- the same request at double precision -/
def asDouble (req : SolveReq ℝ) : SolveReq ℝ := { req with precision := .double }

theorem geom_RCs (σ : ℂ → ℂ) (req : SolveReq ℝ) : geom (RCs σ) req = geom RC (asDouble req) := rfl

theorem srcSpectrum_RCs (σ : ℂ → ℂ) (req : SolveReq ℝ) (g : Geom ℝ) :
    srcSpectrum (RCs σ) req g = srcSpectrum RC (asDouble req) g := rfl

theorem shiftFactor_RCs (σ : ℂ → ℂ) (req : SolveReq ℝ) (g : Geom ℝ) (a b : ℕ) :
    shiftFactor (RCs σ) req g a b = shiftFactor RC (asDouble req) g a b := rfl

theorem dft2_RCs (σ : ℂ → ℂ) (sr : ℝ) (Ny Nx : ℕ) (x : ℕ → ℕ → ℂ) : dft2 (RCs σ) sr Ny Nx x = dft2 RC sr Ny Nx x := rfl

theorem ivpState_RCs (σ : ℂ → ℂ) (P : Profiles ℝ) (z : ℕ → ℝ) (Lx Ly : ℝ) (pq0 : ℂ × ℂ) (l : ℕ) :
    ivpState (RCs σ) P z Lx Ly pq0 l = ivpState RC P z Lx Ly pq0 l := by
  induction l with
  | zero => rfl
  | succ n ih =>
    rw [ivpState, ih]
    rfl

theorem columnNum_RCs (σ : ℂ → ℂ) (P : Profiles ℝ) (z : ℕ → ℝ) (top : ℕ) (Lx Ly : ℝ) (qh : ℂ) (l : ℕ) :
    columnNum (RCs σ) P z top Lx Ly qh l = columnNum RC P z top Lx Ly qh l := by
  simp only [columnNum, ivpState_RCs]
  rfl

theorem columnAna_RCs (σ : ℂ → ℂ) (P : Profiles ℝ) (z : ℕ → ℝ) (top : ℕ) (Lx Ly : ℝ) (qh : ℂ) (l : ℕ) :
    columnAna (RCs σ) P z top Lx Ly qh l = columnAna RC P z top Lx Ly qh l := rfl

theorem waveX_RCs (σ : ℂ → ℂ) (g : Geom ℝ) (b : ℕ) : waveX (RCs σ) g b = waveX RC g b := rfl
theorem waveY_RCs (σ : ℂ → ℂ) (g : Geom ℝ) (a : ℕ) : waveY (RCs σ) g a = waveY RC g a := rfl

/-- **storage rounding is the only difference**: every spectral coefficient of the single-precision request is the
rounded coefficient of the double-precision request -/
theorem single_is_rounded_double (σ : ℂ → ℂ) (req : SolveReq ℝ) (hs : req.precision = .single) (g : Geom ℝ)
    (S : ℕ → ℕ → ℂ) (l a b : ℕ) :
    modeCoef (RCs σ) req g S l a b =
      (σ (modeCoef RC (asDouble req) g S l a b).1, σ (modeCoef RC (asDouble req) g S l a b).2) := by
  simp only [modeCoef, storeP, hs, asDouble, columnNum_RCs, columnAna_RCs, waveX_RCs, waveY_RCs]
  split <;> rfl

/-- a double-precision request does not round at all, whatever `σ` is -/
theorem double_unrounded (σ : ℂ → ℂ) (req : SolveReq ℝ) (hd : req.precision = .double) (g : Geom ℝ)
    (S : ℕ → ℕ → ℂ) (l a b : ℕ) :
    modeCoef (RCs σ) req g S l a b = modeCoef RC req g S l a b := by
  simp only [modeCoef, storeP, hd, columnNum_RCs, columnAna_RCs, waveX_RCs, waveY_RCs]
  split <;> rfl

theorem norm_rootPow (N : ℕ) (m : ℤ) : ‖rootPow N m‖ = 1 := by
  have e : 2 * (Real.pi : ℂ) * Complex.I * (m : ℂ) / (N : ℂ) = ((2 * Real.pi * m / N : ℝ) : ℂ) * Complex.I := by
    push_cast; ring
  rw [rootPow, e, Complex.norm_exp_ofReal_mul_I]

theorem norm_shiftFactor (req : SolveReq ℝ) (g : Geom ℝ) (a b : ℕ) : ‖shiftFactor RC req g a b‖ = 1 := by
  have hexp : ∀ x : ℝ, ‖Complex.exp (Complex.I * (x : ℂ))‖ = 1 := fun x => by
    rw [mul_comm, Complex.norm_exp_ofReal_mul_I]
  rw [shiftFactor_RC]
  split
  · exact hexp _
  · split
    · exact hexp _
    · exact norm_one

/-- **field perturbation**: two truncated coefficient tables give padded-domain fields whose difference at any cell is
bounded by the `ℓ¹` norm of the difference of the tables -/
theorem field_perturbation (s : ℤ) (sr : ℝ) (hs : SignPair s sr) (g : Geom ℝ) (hg : GeomOK g) (T T' : ℕ → ℕ → ℂ) (j i : ℕ) :
    ‖(dft2 RC sr g.nye g.nxe (untrunc g T')).get j i - (dft2 RC sr g.nye g.nxe (untrunc g T)).get j i‖
      ≤ ∑ a ∈ Finset.range g.nly, ∑ b ∈ Finset.range g.nlx, ‖T' a b - T a b‖ := by
  rw [solver_repr s sr hs g hg T' j i, solver_repr s sr hs g hg T j i, ← Finset.sum_sub_distrib]
  refine (norm_sum_le _ _).trans (Finset.sum_le_sum fun a _ => ?_)
  rw [← Finset.sum_sub_distrib]
  refine (norm_sum_le _ _).trans (Finset.sum_le_sum fun b _ => ?_)
  rw [← sub_mul, ← sub_mul, norm_mul, norm_mul, norm_rootPow, norm_rootPow, mul_one, mul_one]

/-- the same bound for any slot-wise relative perturbation of the (unshifted) coefficient table — rounding applied
once, twice, or by another storage format -/
theorem field_bound_of_coef_bound (req : SolveReq ℝ) (g : Geom ℝ) (hg : GeomOK g) (c c' : ℕ → ℕ → ℂ) (ε : ℝ)
    (h : ∀ a b, ‖c' a b - c a b‖ ≤ ε * ‖c a b‖) (j i : ℕ) :
    ‖(dft2 RC (if req.footprint then (-1.0 : ℝ) else 1.0) g.nye g.nxe (untrunc g (fun a b => c' a b * shiftFactor RC req g a b))).get j i
      - (dft2 RC (if req.footprint then (-1.0 : ℝ) else 1.0) g.nye g.nxe (untrunc g (fun a b => c a b * shiftFactor RC req g a b))).get j i‖
      ≤ ε * ∑ a ∈ Finset.range g.nly, ∑ b ∈ Finset.range g.nlx, ‖c a b‖ := by
  refine (field_perturbation _ _ (signPair_sgnZ _) g hg _ _ j i).trans ?_
  rw [Finset.mul_sum]
  refine Finset.sum_le_sum fun a _ => ?_
  rw [Finset.mul_sum]
  refine Finset.sum_le_sum fun b _ => ?_
  rw [← sub_mul, norm_mul, norm_shiftFactor, mul_one]
  exact h a b

/-- the single-precision fields, written with the exact record and rounded coefficients (cf. `C03.fieldsAt_eq`) -/
theorem fieldsAt_RCs (σ : ℂ → ℂ) (req : SolveReq ℝ) (hs : req.precision = .single) (g : Geom ℝ) (S : ℕ → ℕ → ℂ) (l : ℕ) :
    (fieldsAt (RCs σ) req g S l).1 = dft2 RC (if (asDouble req).footprint then (-1.0 : ℝ) else 1.0) g.nye g.nxe
        (untrunc g (fun a b => σ (modeCoef RC (asDouble req) g S l a b).1 * shiftFactor RC (asDouble req) g a b)) ∧
    (fieldsAt (RCs σ) req g S l).2 = dft2 RC (if (asDouble req).footprint then (-1.0 : ℝ) else 1.0) g.nye g.nxe
        (untrunc g (fun a b => σ (modeCoef RC (asDouble req) g S l a b).2 * shiftFactor RC (asDouble req) g a b)) := by
  simp only [fieldsAt, dft2_RCs, Tab2.get_tab_eq, Tab2.get_tab, single_is_rounded_double σ req hs, shiftFactor_RCs]
  exact ⟨rfl, rfl⟩

/-- **single versus double precision**: at every level and every cell of the padded domain, both fields of the
single-precision request differ from those of the double-precision request by at most `ε` times the `ℓ¹` norm of the
double-precision spectrum, for any storage rounding with relative error `ε` -/
theorem single_vs_double_bound (σ : ℂ → ℂ) (ε : ℝ) (hσ : ∀ c : ℂ, ‖σ c - c‖ ≤ ε * ‖c‖)
    (req : SolveReq ℝ) (hs : req.precision = .single) (hg : GeomOK (geom RC (asDouble req))) (l j i : ℕ) :
    let g := geom RC (asDouble req)
    let S := (srcSpectrum RC (asDouble req) g).get
    ‖(fieldsAt (RCs σ) req g S l).1.get j i - (fieldsAt RC (asDouble req) g S l).1.get j i‖
        ≤ ε * ∑ a ∈ Finset.range g.nly, ∑ b ∈ Finset.range g.nlx, ‖(modeCoef RC (asDouble req) g S l a b).1‖ ∧
    ‖(fieldsAt (RCs σ) req g S l).2.get j i - (fieldsAt RC (asDouble req) g S l).2.get j i‖
        ≤ ε * ∑ a ∈ Finset.range g.nly, ∑ b ∈ Finset.range g.nlx, ‖(modeCoef RC (asDouble req) g S l a b).2‖ := by
  intro g S
  obtain ⟨e1, e2⟩ := fieldsAt_RCs σ req hs g S l
  constructor
  · rw [e1, (C03.fieldsAt_eq (asDouble req) g S l).1]
    exact field_bound_of_coef_bound (asDouble req) g hg _ _ ε (fun a b => hσ _) j i
  · rw [e2, (C03.fieldsAt_eq (asDouble req) g S l).2]
    exact field_bound_of_coef_bound (asDouble req) g hg _ _ ε (fun a b => hσ _) j i

/-- **two roundings in a row** (the analytic branch derives the concentration coefficient from the already stored flux
coefficient, `tfftp[:, msk] = tfftq[:, msk] * Kzinv / eigval`): the relative error is at most `2ε + ε²` -/
theorem double_rounding (σ : ℂ → ℂ) (ε : ℝ) (hε : 0 ≤ ε) (hσ : ∀ c : ℂ, ‖σ c - c‖ ≤ ε * ‖c‖) (q k : ℂ) :
    ‖σ (σ q * k) - q * k‖ ≤ (2 * ε + ε ^ 2) * ‖q * k‖ := by
  have h1 : ‖σ q * k - q * k‖ ≤ ε * ‖q * k‖ := by
    rw [← sub_mul, norm_mul, norm_mul, ← mul_assoc]
    exact mul_le_mul_of_nonneg_right (hσ q) (norm_nonneg k)
  have h2 : ‖σ q * k‖ ≤ (1 + ε) * ‖q * k‖ := by
    rw [add_mul, one_mul]
    exact (norm_le_norm_add_norm_sub' _ _).trans (add_le_add le_rfl h1)
  calc ‖σ (σ q * k) - q * k‖ ≤ ‖σ (σ q * k) - σ q * k‖ + ‖σ q * k - q * k‖ := norm_sub_le_norm_sub_add_norm_sub _ _ _
    _ ≤ ε * ((1 + ε) * ‖q * k‖) + ε * ‖q * k‖ := add_le_add ((hσ _).trans (mul_le_mul_of_nonneg_left h2 hε)) h1
    _ = (2 * ε + ε ^ 2) * ‖q * k‖ := by ring

/-- non-vacuity of the rounding hypothesis: the identity rounds with `ε = 0`, and a relative perturbation
`σ c = (1 + η) c` rounds with `ε = ‖η‖` -/
example : ∀ c : ℂ, ‖id c - c‖ ≤ 0 * ‖c‖ := by intro c; simp
example (η : ℂ) : ∀ c : ℂ, ‖(1 + η) * c - c‖ ≤ ‖η‖ * ‖c‖ := by
  intro c
  have : (1 + η) * c - c = η * c := by ring
  rw [this, norm_mul]

end BLDFM.C12
