/-
  C10c — the closed-form (analytic) slices through any marching order: advancing a spectral coefficient from one requested
  height to the next by `exp(-λ Δh)` - upwards or downwards, in whatever order the levels are listed - reproduces the direct
  factor `exp(-λ h_k)` at every slot.  Over ℂ the two formulations are the same function of the request; what separates them in
  floating point is underflow of an intermediate factor (a high level visited before a low one), which is outside the exact model
  and is therefore exercised by the oracle on columns that are tall against the horizontal cell (the stored change
  seeded/C10t puts such a march, in the listed order, into the Python code).  `marched` is defined here;
  the model's `columnAna` uses the direct factor.
-/
import Mathlib.Analysis.SpecialFunctions.Exp
import Mathlib.Algebra.BigOperators.Intervals

open Finset

namespace BLDFM.C10

/-- marching: start from the surface (`h = 0`) and multiply by `exp(-λ (h k - h (k-1)))` for each listed level in turn -/
noncomputable def marched (lam : ℂ) (h : ℕ → ℝ) (K : ℕ) : ℂ :=
  ∏ k ∈ range (K + 1), Complex.exp (-lam * ((h k : ℂ) - (if k = 0 then 0 else (h (k - 1) : ℂ))))

/-- the increments telescope, whatever their signs -/
theorem increments_telescope (h : ℕ → ℝ) (K : ℕ) :
    ∑ k ∈ range (K + 1), ((h k : ℂ) - (if k = 0 then 0 else (h (k - 1) : ℂ))) = (h K : ℂ) := by
  induction K with
  | zero => simp
  | succ n ih =>
    rw [sum_range_succ, ih]
    simp

/-- **marching = direct**, for every list of heights (ascending, descending, repeated, unsorted) and every decay rate -/
theorem marched_eq_direct (lam : ℂ) (h : ℕ → ℝ) (K : ℕ) :
    marched lam h K = Complex.exp (-lam * (h K : ℂ)) := by
  unfold marched
  rw [← Complex.exp_sum, ← mul_sum, increments_telescope]

/-- hence slot `K` of a marched request depends only on the height listed at slot `K` -/
theorem marched_depends_only_on_level (lam : ℂ) (h h' : ℕ → ℝ) (K K' : ℕ) (hh : h K = h' K') :
    marched lam h K = marched lam h' K' := by
  rw [marched_eq_direct, marched_eq_direct, hh]

/-! non-vacuity: top level first, then the surface -/
example : marched 2 (fun k => if k = 0 then 5 else 0) 1 = 1 := by
  rw [marched_eq_direct]; simp

end BLDFM.C10
