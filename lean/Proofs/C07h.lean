/-
  C07 (field level) — mirroring in y in footprint mode, by conjugating the footprint-mode x-mirror (C07g) with the axis swap:
  wind component `v ↦ -v`, the on-grid tower mirrored in y (`j_m ↦ ny - 1 - j_m`); with an odd retained-mode count in y both padded-domain
  fields of the mirrored request are the y-mirrored fields, `field'[J, I] = field[Ny - 1 - J, I]`.
-/
import Proofs.C07f
import Proofs.C07g

open BLDFM BLDFM.Spec BLDFM.Index

namespace BLDFM.C07

/-- the x-mirror image of a footprint request whose tower sits on grid column `im` -/
noncomputable def mirrorXfpOf (r : SolveReq ℝ) (im : ℕ) : SolveReq ℝ :=
  { r with P := mirrorX r.P, xm := ((r.nx - 1 - im : ℕ) : ℝ) * (geom RC r).dx }

/-- the y-mirror image of a footprint request whose tower sits on grid row `jm` -/
noncomputable def mirrorYfpOf (r : SolveReq ℝ) (jm : ℕ) : SolveReq ℝ :=
  { r with P := mirrorY r.P, ym := ((r.ny - 1 - jm : ℕ) : ℝ) * (geom RC r).dy }

theorem mirrorXfpOf_pair (r : SolveReq ℝ) (im : ℕ) : MirroredXfp r (mirrorXfpOf r im) im := rfl

theorem mirrorYfp_is_conjugate (r : SolveReq ℝ) (jm : ℕ) :
    mirrorYfpOf r jm = transposeOf (mirrorXfpOf (transposeOf r) jm) := rfl

/-- mirror in y, footprint mode, field form: with an odd retained-mode count in y both padded-domain fields of the request with
`v` negated and the on-grid tower mirrored in y are the fields mirrored in y -/
theorem mirrorY_footprint_field (r : SolveReq ℝ) (hg : GeomOK (geom RC r)) (hp : r.precision = .double) (hfp : r.footprint = true)
    (im jm : ℕ) (hjm : jm < r.ny) (hxm : r.xm = im * (geom RC r).dx) (hym : r.ym = jm * (geom RC r).dy)
    (hdx : (geom RC r).dx ≠ 0) (hdy : (geom RC r).dy ≠ 0) (hodd : (geom RC r).nly % 2 = 1)
    (l J I : ℕ) (hJ : J < (geom RC r).nye) :
    (fieldsAt RC (mirrorYfpOf r jm) (geom RC (mirrorYfpOf r jm)) (srcSpectrum RC (mirrorYfpOf r jm) (geom RC (mirrorYfpOf r jm))).get l).1.get J I
      = (fieldsAt RC r (geom RC r) (srcSpectrum RC r (geom RC r)).get l).1.get ((geom RC r).nye - 1 - J) I ∧
    (fieldsAt RC (mirrorYfpOf r jm) (geom RC (mirrorYfpOf r jm)) (srcSpectrum RC (mirrorYfpOf r jm) (geom RC (mirrorYfpOf r jm))).get l).2.get J I
      = (fieldsAt RC r (geom RC r) (srcSpectrum RC r (geom RC r)).get l).2.get ((geom RC r).nye - 1 - J) I := by
  have t01 := transposeOf_pair r
  have m12 := mirrorXfpOf_pair (transposeOf r) jm
  have hg1 := tr_geomOK t01 hg
  have hg2 : GeomOK (geom RC (mirrorXfpOf (transposeOf r) jm)) := by
    rw [mxfp_geom m12]
    exact hg1
  -- the tower of the transposed request: column `jm`, row `im`
  have hxm1 : (transposeOf r).xm = jm * (geom RC (transposeOf r)).dx := by
    rw [tr_dx t01]
    exact hym
  have hym1 : (transposeOf r).ym = im * (geom RC (transposeOf r)).dy := by
    rw [tr_dy t01]
    exact hxm
  have hdx1 : (geom RC (transposeOf r)).dx ≠ 0 := by
    rw [tr_dx t01]
    exact hdy
  have hdy1 : (geom RC (transposeOf r)).dy ≠ 0 := by
    rw [tr_dy t01]
    exact hdx
  have hodd1 : (geom RC (transposeOf r)).nlx % 2 = 1 := by
    rw [tr_nlx t01]
    exact hodd
  rw [mirrorYfp_is_conjugate]
  refine Prod.mk.inj (mirrorY_of_mirrorX hg hg2 l (fun J I hI => ?_) J I hJ)
  rw [← tr_nxe t01] at hI ⊢
  have hx := mirrorX_footprint_field m12 hg1 hp hfp im hjm hxm1 hym1 hdx1 hdy1 hodd1 l J I hI
  exact Prod.ext hx.1 hx.2

end BLDFM.C07
