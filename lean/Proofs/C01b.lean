/-
  C01 (convergence of the sweep, assembled) — for any Lipschitz coefficient functions `T(z)`, `k(z) = 1/Kz(z)` of
  which the profiles are the node samples, and any exact solution `(p, q)` of the column ODE `p' = -k q`, `q' = T p`
  on `[z_0, z_l]`, the state of the numerical sweep started from the exact values differs from the exact solution at
  node `l` by at most `exp(L h) · C · δ · h` (`h = z_l - z_0`, `δ ≤ 1` the largest layer thickness): first order in
  the layer thickness, with explicit constants `L = a + a²/2 + a³/6`, `C = ΛB + a²B + a²B/2 + a³B/6` in terms of the
  bounds `a` (coefficients), `B` (solution) and `Λ` (Lipschitz constant).  No bound on the number of layers.
-/
import Proofs.C01

open BLDFM BLDFM.Spec Set

namespace BLDFM.C01

/-- discrete Gronwall with the hypotheses only up to the node of interest -/
theorem gronwall_upto (e dz : ℕ → ℝ) (L τ : ℝ) (hL : 0 ≤ L) (hτ : 0 ≤ τ) (he0 : 0 ≤ e 0) : ∀ (l : ℕ),
    (∀ i, i < l → 0 ≤ dz i) → (∀ i, i < l → e (i + 1) ≤ (1 + L * dz i) * e i + τ * dz i) →
    e l ≤ Real.exp (L * ∑ i ∈ Finset.range l, dz i) * (e 0 + τ * ∑ i ∈ Finset.range l, dz i) := by
  intro l hdz hstep
  -- `one_step_convergence` for the sequences stopped at `l`: the error stays `e l`, the further layers are empty
  have h := one_step_convergence (fun i => e (min i l)) (fun i => if i < l then dz i else 0) L τ hL hτ ?_ ?_ ?_ l
  · have hsum : ∑ i ∈ Finset.range l, (if i < l then dz i else 0) = ∑ i ∈ Finset.range l, dz i :=
      Finset.sum_congr rfl fun i hi => if_pos (Finset.mem_range.1 hi)
    rwa [min_self, Nat.zero_min, hsum] at h
  · intro i
    split_ifs with hi
    exacts [hdz i hi, le_rfl]
  · rwa [Nat.zero_min]
  · intro i
    rcases lt_or_ge i l with hi | hi
    · simpa [hi, min_eq_left hi.le, min_eq_left (Nat.succ_le_of_lt hi)] using hstep i hi
    · simp [hi.not_gt, min_eq_right hi, min_eq_right (hi.trans i.le_succ)]

theorem coef_norms (T k : ℂ) (dz a : ℝ) (hT : ‖T‖ ≤ a) (hk : ‖k‖ ≤ a) (h0 : 0 ≤ dz) :
    ‖coefA T k (dz : ℂ)‖ ≤ 1 + a ^ 2 * dz ^ 2 / 2 ∧ ‖coefB T k (dz : ℂ)‖ ≤ a * dz + a ^ 3 * dz ^ 3 / 6 ∧
    ‖coefC T k (dz : ℂ)‖ ≤ a * dz + a ^ 3 * dz ^ 3 / 6 ∧ ‖coefD T k (dz : ℂ)‖ ≤ 1 + a ^ 2 * dz ^ 2 / 2 := by
  have ha : 0 ≤ a := (norm_nonneg T).trans hT
  have ndz : ‖(dz : ℂ)‖ = dz := by rw [Complex.norm_real, Real.norm_of_nonneg h0]
  have hA : ‖coefA T k (dz : ℂ)‖ ≤ 1 + a ^ 2 * dz ^ 2 / 2 := by
    rw [coefA_eq]
    refine (norm_sub_le _ _).trans ?_
    rw [norm_one, norm_div, norm_mul, norm_mul, norm_pow, ndz, Complex.norm_ofNat, pow_two a]
    gcongr
  have hB : ‖coefB T k (dz : ℂ)‖ ≤ a * dz + a ^ 3 * dz ^ 3 / 6 := by
    rw [coefB_eq]
    refine (norm_add_le _ _).trans ?_
    rw [norm_neg, norm_div, norm_mul, norm_mul, norm_mul, norm_pow, norm_pow, ndz, Complex.norm_ofNat, pow_succ a 2]
    gcongr
  have hC : ‖coefC T k (dz : ℂ)‖ ≤ a * dz + a ^ 3 * dz ^ 3 / 6 := by
    rw [coefC_eq]
    refine (norm_sub_le _ _).trans ?_
    rw [norm_div, norm_mul, norm_mul, norm_mul, norm_pow, norm_pow, ndz, Complex.norm_ofNat, pow_succ' a 2]
    gcongr
  exact ⟨hA, hB, hC, hA⟩

/-- stability of one layer (`norm_layerStep_le`) by components -/
theorem layerStep_stable (T k : ℂ) (dz a e : ℝ) (hT : ‖T‖ ≤ a) (hk : ‖k‖ ≤ a) (h0 : 0 ≤ dz) (h1 : dz ≤ 1)
    (p q : ℂ) (hp : ‖p‖ ≤ e) (hq : ‖q‖ ≤ e) :
    ‖(layerStep T k (dz : ℂ) (p, q)).1‖ ≤ (1 + (a + a ^ 2 / 2 + a ^ 3 / 6) * dz) * e ∧
    ‖(layerStep T k (dz : ℂ) (p, q)).2‖ ≤ (1 + (a + a ^ 2 / 2 + a ^ 3 / 6) * dz) * e := by
  have ha : 0 ≤ a := (norm_nonneg T).trans hT
  refine norm_prod_le_iff.1 ((norm_layerStep_le hT hk h0 h1 (p, q)).trans ?_)
  exact mul_le_mul_of_nonneg_left (norm_prod_le_iff.2 ⟨hp, hq⟩) (by positivity)

theorem layerStep_sub (T k dz : ℂ) (y y' : ℂ × ℂ) :
    layerStep T k dz y - layerStep T k dz y' = layerStep T k dz (y - y') := by
  simp only [layerStep]
  refine Prod.ext ?_ ?_ <;> (simp only [Prod.fst_sub, Prod.snd_sub]; ring)

/-- local error of one layer (`layerStep_consistency`) by components -/
theorem local_error (Tc kc p q : ℝ → ℂ) (z dz a B Λ : ℝ) (h0 : 0 ≤ dz) (h1 : dz ≤ 1)
    (hp : ∀ s ∈ Icc z (z + dz), HasDerivAt p (-(kc s) * q s) s)
    (hq : ∀ s ∈ Icc z (z + dz), HasDerivAt q (Tc s * p s) s)
    (hTa : ∀ s ∈ Icc z (z + dz), ‖Tc s‖ ≤ a) (hka : ∀ s ∈ Icc z (z + dz), ‖kc s‖ ≤ a)
    (hpB : ∀ s ∈ Icc z (z + dz), ‖p s‖ ≤ B) (hqB : ∀ s ∈ Icc z (z + dz), ‖q s‖ ≤ B)
    (hTl : ∀ s ∈ Icc z (z + dz), ‖Tc s - Tc z‖ ≤ Λ * (s - z)) (hkl : ∀ s ∈ Icc z (z + dz), ‖kc s - kc z‖ ≤ Λ * (s - z)) :
    ‖p (z + dz) - (layerStep (Tc z) (kc z) (dz : ℂ) (p z, q z)).1‖ ≤ (Λ * B + a ^ 2 * B + a ^ 2 * B / 2 + a ^ 3 * B / 6) * dz ^ 2 ∧
    ‖q (z + dz) - (layerStep (Tc z) (kc z) (dz : ℂ) (p z, q z)).2‖ ≤ (Λ * B + a ^ 2 * B + a ^ 2 * B / 2 + a ^ 3 * B / 6) * dz ^ 2 := by
  -- an empty layer has no error; on a proper one the Lipschitz hypothesis at its top forces `0 ≤ Λ`
  rcases h0.eq_or_lt with rfl | hpos
  · simp [layerStep_eq_taylor]
  · have hΛ : 0 ≤ Λ := by
      have h := (norm_nonneg _).trans (hTl (z + dz) (right_mem_Icc.2 (le_add_of_nonneg_right h0)))
      rw [add_sub_cancel_left] at h
      exact nonneg_of_mul_nonneg_left h hpos
    exact norm_prod_le_iff.1 (layerStep_consistency (Y := fun s => (p s, q s)) h0 hΛ
      (fun s hs => (hp s hs).prodMk (hq s hs)) hTa hka (fun s hs => norm_prod_le_iff.2 ⟨hpB s hs, hqB s hs⟩) hTl hkl h1)

theorem z_mono (z : ℕ → ℝ) (l : ℕ) (h : ∀ i, i < l → 0 ≤ z (i + 1) - z i) :
    ∀ j, j ≤ l → ∀ i, i ≤ j → z i ≤ z j := by
  intro j hj i hi
  induction j, hi using Nat.le_induction with
  | base => exact le_rfl
  | succ j _ ih => exact (ih (Nat.le_of_succ_le hj)).trans (sub_nonneg.1 (h j hj))

theorem z_mem_Icc {z : ℕ → ℝ} {l i : ℕ} (h : ∀ i, i < l → 0 ≤ z (i + 1) - z i) (hi : i ≤ l) : z i ∈ Icc (z 0) (z l) :=
  ⟨z_mono z l h i hi 0 i.zero_le, z_mono z l h l le_rfl i hi⟩

/-- convergence of a sweep from consistency and stability: `y` is propagated by layer maps with coefficients bounded by
`a`, `Y` by the same maps up to `C·dz_i²`; then their distance obeys the Gronwall bound with `L = a + a²/2 + a³/6` -/
theorem sweep_error_le (T k : ℕ → ℂ) (z : ℕ → ℝ) (Y y : ℕ → ℂ × ℂ) (l : ℕ) (a C δ : ℝ) (ha : 0 ≤ a) (hC : 0 ≤ C)
    (hδ0 : 0 ≤ δ) (hδ1 : δ ≤ 1) (hgrid : ∀ i, i < l → 0 ≤ z (i + 1) - z i ∧ z (i + 1) - z i ≤ δ)
    (hT : ∀ i, i < l → ‖T i‖ ≤ a) (hk : ∀ i, i < l → ‖k i‖ ≤ a)
    (hy : ∀ i, i < l → y (i + 1) = layerStep (T i) (k i) ((z (i + 1) - z i : ℝ) : ℂ) (y i))
    (hY : ∀ i, i < l →
      ‖Y (i + 1) - layerStep (T i) (k i) ((z (i + 1) - z i : ℝ) : ℂ) (Y i)‖ ≤ C * (z (i + 1) - z i) ^ 2) :
    ‖Y l - y l‖ ≤ Real.exp ((a + a ^ 2 / 2 + a ^ 3 / 6) * (z l - z 0)) * (‖Y 0 - y 0‖ + C * δ * (z l - z 0)) := by
  have g := gronwall_upto (fun i => ‖Y i - y i‖) (fun i => z (i + 1) - z i) (a + a ^ 2 / 2 + a ^ 3 / 6) (C * δ)
    (by positivity) (mul_nonneg hC hδ0) (norm_nonneg _) l (fun i hi => (hgrid i hi).1) ?_
  · rwa [Finset.sum_range_sub z l] at g
  intro i hi
  obtain ⟨hd0, hdδ⟩ := hgrid i hi
  have hq : C * (z (i + 1) - z i) ^ 2 ≤ C * δ * (z (i + 1) - z i) := by
    rw [pow_two, ← mul_assoc]
    exact mul_le_mul_of_nonneg_right (mul_le_mul_of_nonneg_left hdδ hC) hd0
  -- error after the layer = the layer map applied to the error before it + local error
  have e1 : Y (i + 1) - y (i + 1) = layerStep (T i) (k i) ((z (i + 1) - z i : ℝ) : ℂ) (Y i - y i)
      + (Y (i + 1) - layerStep (T i) (k i) ((z (i + 1) - z i : ℝ) : ℂ) (Y i)) := by
    rw [hy i hi, ← layerStep_sub]; abel
  rw [e1]
  exact (norm_add_le _ _).trans (add_le_add
    (norm_layerStep_le (hT i hi) (hk i hi) hd0 (hdδ.trans hδ1) _) ((hY i hi).trans hq))

/-- the sweep bound at any node `l ≤ top`, uniformly by the bound at the top, in the max-norm of the pair -/
theorem sweep_bound_upto (P : Profiles ℝ) (z : ℕ → ℝ) (Lx Ly : ℝ) (Tc kc p q : ℝ → ℂ) (top l : ℕ) (hl : l ≤ top)
    (a B Λ δ : ℝ) (hΛ : 0 ≤ Λ) (hδ0 : 0 ≤ δ) (hδ1 : δ ≤ 1)
    (hsample : ∀ i, i < top → Tcoef RC P Lx Ly i = Tc (z i) ∧ RC.ofReal (1.0 / P.Kz i) = kc (z i))
    (hgrid : ∀ i, i < top → 0 ≤ z (i + 1) - z i ∧ z (i + 1) - z i ≤ δ)
    (hp : ∀ s ∈ Icc (z 0) (z top), HasDerivAt p (-(kc s) * q s) s)
    (hq : ∀ s ∈ Icc (z 0) (z top), HasDerivAt q (Tc s * p s) s)
    (hTa : ∀ s ∈ Icc (z 0) (z top), ‖Tc s‖ ≤ a) (hka : ∀ s ∈ Icc (z 0) (z top), ‖kc s‖ ≤ a)
    (hpB : ∀ s ∈ Icc (z 0) (z top), ‖p s‖ ≤ B) (hqB : ∀ s ∈ Icc (z 0) (z top), ‖q s‖ ≤ B)
    (hTl : ∀ s ∈ Icc (z 0) (z top), ∀ t ∈ Icc (z 0) (z top), ‖Tc s - Tc t‖ ≤ Λ * |s - t|)
    (hkl : ∀ s ∈ Icc (z 0) (z top), ∀ t ∈ Icc (z 0) (z top), ‖kc s - kc t‖ ≤ Λ * |s - t|) :
    ‖ivpState RC P z Lx Ly (p (z 0), q (z 0)) l - (p (z l), q (z l))‖
      ≤ Real.exp ((a + a ^ 2 / 2 + a ^ 3 / 6) * (z top - z 0))
          * ((Λ * B + a ^ 2 * B + a ^ 2 * B / 2 + a ^ 3 * B / 6) * δ * (z top - z 0)) := by
  have hzi : ∀ i, i ≤ top → z i ∈ Icc (z 0) (z top) := fun i hi => z_mem_Icc (fun i hi => (hgrid i hi).1) hi
  have ha : 0 ≤ a := (norm_nonneg _).trans (hTa _ (hzi 0 (Nat.zero_le _)))
  have hB : 0 ≤ B := (norm_nonneg _).trans (hpB _ (hzi 0 (Nat.zero_le _)))
  have h := sweep_error_le (fun i => Tc (z i)) (fun i => kc (z i)) z (fun i => (p (z i), q (z i)))
    (ivpState RC P z Lx Ly (p (z 0), q (z 0))) l a (Λ * B + a ^ 2 * B + a ^ 2 * B / 2 + a ^ 3 * B / 6) δ
    ha (by positivity) hδ0 hδ1 (fun i hi => hgrid i (hi.trans_le hl)) (fun i hi => hTa _ (hzi i (hi.le.trans hl)))
    (fun i hi => hka _ (hzi i (hi.le.trans hl))) ?_ ?_
  · rw [ivpState, sub_self, norm_zero, zero_add, norm_sub_rev] at h
    -- the Gronwall bound grows with the height
    have h0 : 0 ≤ z l - z 0 := sub_nonneg.2 (hzi l hl).1
    have hh : z l ≤ z top := (hzi l hl).2
    refine h.trans ?_
    gcongr
  · intro i hi
    rw [ivpState, (hsample i (hi.trans_le hl)).1, (hsample i (hi.trans_le hl)).2]
    rfl
  · -- the local error of layer `i`, whose interval `[z i, z (i+1)]` lies in `[z 0, z top]`
    intro i hi
    have hi' : i < top := hi.trans_le hl
    have hsub : Icc (z i) (z i + (z (i + 1) - z i)) ⊆ Icc (z 0) (z top) := by
      rw [add_sub_cancel]
      exact Icc_subset_Icc (hzi i hi'.le).1 (hzi (i + 1) hi').2
    have h := layerStep_consistency (Y := fun s => (p s, q s)) (hgrid i hi').1 hΛ
      (fun s hs => (hp s (hsub hs)).prodMk (hq s (hsub hs))) (fun s hs => hTa s (hsub hs)) (fun s hs => hka s (hsub hs))
      (fun s hs => norm_prod_le_iff.2 ⟨hpB s (hsub hs), hqB s (hsub hs)⟩)
      (fun s hs => by simpa [abs_of_nonneg (sub_nonneg.2 hs.1)] using hTl s (hsub hs) _ (hzi i hi'.le))
      (fun s hs => by simpa [abs_of_nonneg (sub_nonneg.2 hs.1)] using hkl s (hsub hs) _ (hzi i hi'.le))
      ((hgrid i hi').2.trans hδ1)
    rwa [add_sub_cancel] at h

/-- first-order convergence of the sweep: started from the exact values, it is within `exp(L h)·C·δ·h` of an exact
solution `(p, q)` of the column ODE at node `l`, in both components (`δ ≤ 1` bounds the layer thickness) -/
theorem sweep_first_order (P : Profiles ℝ) (z : ℕ → ℝ) (Lx Ly : ℝ) (Tc kc p q : ℝ → ℂ) (l : ℕ) (a B Λ δ : ℝ)
    (hΛ : 0 ≤ Λ) (hδ0 : 0 ≤ δ) (hδ1 : δ ≤ 1)
    (hsample : ∀ i, i < l → Tcoef RC P Lx Ly i = Tc (z i) ∧ RC.ofReal (1.0 / P.Kz i) = kc (z i))
    (hgrid : ∀ i, i < l → 0 ≤ z (i + 1) - z i ∧ z (i + 1) - z i ≤ δ)
    (hp : ∀ s ∈ Icc (z 0) (z l), HasDerivAt p (-(kc s) * q s) s)
    (hq : ∀ s ∈ Icc (z 0) (z l), HasDerivAt q (Tc s * p s) s)
    (hTa : ∀ s ∈ Icc (z 0) (z l), ‖Tc s‖ ≤ a) (hka : ∀ s ∈ Icc (z 0) (z l), ‖kc s‖ ≤ a)
    (hpB : ∀ s ∈ Icc (z 0) (z l), ‖p s‖ ≤ B) (hqB : ∀ s ∈ Icc (z 0) (z l), ‖q s‖ ≤ B)
    (hTl : ∀ s ∈ Icc (z 0) (z l), ∀ t ∈ Icc (z 0) (z l), ‖Tc s - Tc t‖ ≤ Λ * |s - t|)
    (hkl : ∀ s ∈ Icc (z 0) (z l), ∀ t ∈ Icc (z 0) (z l), ‖kc s - kc t‖ ≤ Λ * |s - t|) :
    ‖p (z l) - (ivpState RC P z Lx Ly (p (z 0), q (z 0)) l).1‖
      ≤ Real.exp ((a + a ^ 2 / 2 + a ^ 3 / 6) * (z l - z 0))
          * ((Λ * B + a ^ 2 * B + a ^ 2 * B / 2 + a ^ 3 * B / 6) * δ * (z l - z 0)) ∧
    ‖q (z l) - (ivpState RC P z Lx Ly (p (z 0), q (z 0)) l).2‖
      ≤ Real.exp ((a + a ^ 2 / 2 + a ^ 3 / 6) * (z l - z 0))
          * ((Λ * B + a ^ 2 * B + a ^ 2 * B / 2 + a ^ 3 * B / 6) * δ * (z l - z 0))  :=
  norm_prod_le_iff.1 <| (norm_sub_rev _ _).trans_le <|
    sweep_bound_upto P z Lx Ly Tc kc p q l l le_rfl a B Λ δ hΛ hδ0 hδ1 hsample hgrid hp hq hTa hka hpB hqB hTl hkl

/-! the hypotheses of `sweep_first_order` are satisfiable: constant coefficients `T = -1`, `k = 1`, exact solution
`p = q = e^{-s}`, ten layers of 1/10 -/
example : ∃ (P : Profiles ℝ) (z : ℕ → ℝ) (Lx Ly : ℝ) (Tc kc p q : ℝ → ℂ) (l : ℕ) (a B Λ δ : ℝ),
    0 ≤ Λ ∧ 0 ≤ δ ∧ δ ≤ 1 ∧ 0 < l ∧
    (∀ i, i < l → Tcoef RC P Lx Ly i = Tc (z i) ∧ RC.ofReal (1.0 / P.Kz i) = kc (z i)) ∧
    (∀ i, i < l → 0 ≤ z (i + 1) - z i ∧ z (i + 1) - z i ≤ δ) ∧
    (∀ s ∈ Icc (z 0) (z l), HasDerivAt p (-(kc s) * q s) s) ∧ (∀ s ∈ Icc (z 0) (z l), HasDerivAt q (Tc s * p s) s) ∧
    (∀ s ∈ Icc (z 0) (z l), ‖Tc s‖ ≤ a) ∧ (∀ s ∈ Icc (z 0) (z l), ‖kc s‖ ≤ a) ∧
    (∀ s ∈ Icc (z 0) (z l), ‖p s‖ ≤ B) ∧ (∀ s ∈ Icc (z 0) (z l), ‖q s‖ ≤ B) ∧
    (∀ s ∈ Icc (z 0) (z l), ∀ t ∈ Icc (z 0) (z l), ‖Tc s - Tc t‖ ≤ Λ * |s - t|) ∧
    (∀ s ∈ Icc (z 0) (z l), ∀ t ∈ Icc (z 0) (z l), ‖kc s - kc t‖ ≤ Λ * |s - t|) := by
  have hd : ∀ s : ℝ, HasDerivAt (fun s : ℝ => Complex.exp (-(s : ℂ))) (-Complex.exp (-(s : ℂ))) s := fun s => by
    simpa using hasDerivAt_cexp_mul_ofReal (-1) s
  have hb : ∀ s : ℝ, 0 ≤ s → ‖Complex.exp (-(s : ℂ))‖ ≤ 1 := fun s hs => by
    rw [Complex.norm_exp]
    simpa using hs
  refine ⟨⟨fun _ => 0, fun _ => 0, fun _ => 1, fun _ => 0, fun _ => 1⟩, fun i => (i : ℝ) / 10, 1, 0,
    fun _ => -1, fun _ => 1, fun s => Complex.exp (-(s : ℂ)), fun s => Complex.exp (-(s : ℂ)), 10, 1, 1, 0, 1 / 10,
    le_refl _, by norm_num, by norm_num, by norm_num, ?_, ?_, ?_, ?_, ?_, ?_, ?_, ?_, ?_, ?_⟩
  · intro i _
    constructor
    · rw [Tcoef_RC]
      norm_num
    · simp only [RC_ofReal]; norm_num
  · intro i _
    constructor <;> (push_cast; linarith)
  · exact fun s _ => by simpa using hd s
  · exact fun s _ => by simpa using hd s
  · exact fun s _ => by simp
  · exact fun s _ => by simp
  · exact fun s hs => hb s (by simpa using hs.1)
  · exact fun s hs => hb s (by simpa using hs.1)
  · exact fun s _ t _ => by simp
  · exact fun s _ t _ => by simp

end BLDFM.C01
