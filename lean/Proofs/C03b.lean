/-
  C03 (field level) — through the whole model pipeline (pad, transform, truncate, sweep, shift,
  un-truncate, inverse transform): at every output level the sum of the flux field over the full periodic
  (halo-padded) domain equals the sum of the surface flux; the concentration field sums to
  `Nx·Ny·bg − (Σ q)·R_l`; in footprint mode the weights over the padded domain sum to exactly one.
-/
import Proofs.C02

open BLDFM BLDFM.Spec BLDFM.Index

namespace BLDFM.C03

/-- both fields summed over the full padded domain are `Ny·Nx` times the coefficient pair of the zero slot: the
sweep, the shift and the truncation only redistribute -/
theorem fieldAt_sum (req : SolveReq ℝ) (g : Geom ℝ) (hg : GeomOK g) (S : ℕ → ℕ → ℂ) (l : ℕ) :
    ∑ j ∈ Finset.range g.nye, ∑ i ∈ Finset.range g.nxe, fieldAt req g S l j i
      = ((g.nye : ℂ) * (g.nxe : ℂ)) • modeCoef RC req g S l 0 0 := by
  simp only [fieldAt_trig req g hg]
  rw [sum_trig hg.ady.pos hg.adx.pos hg.ady.le hg.adx.le (signPair_sgnZ _).eq_one_or_neg_one, coefTab,
    dc_phase_unit req g hg.adx.pos hg.ady.pos, one_smul]

/-- flux conservation: the flux field summed over the full padded domain is `Nx·Ny·q̂₀₀`, at every level,
in both modes, numeric and analytic, for every profile set, truncation, halo and parity -/
theorem flux_sum_padded (req : SolveReq ℝ) (hg : GeomOK (geom RC req)) (S : ℕ → ℕ → ℂ) (l : ℕ) :
    let g := geom RC req
    ∑ j ∈ Finset.range g.nye, ∑ i ∈ Finset.range g.nxe, (fieldsAt RC req g S l).2.get j i
      = (g.nye : ℂ) * (g.nxe : ℂ) * S 0 0 := by
  have h := congrArg Prod.snd (fieldAt_sum req _ hg S l)
  simpa only [Prod.snd_sum, Prod.smul_snd, smul_eq_mul, fieldAt_snd, dc_flux_conserved req S l] using h

/-- concentration: the concentration field summed over the padded domain is `Nx·Ny` times the zero-slot coefficient,
which is `bg − q̂₀₀ R_l` (`dc_conc_resistance`) -/
theorem conc_sum_padded (req : SolveReq ℝ) (hg : GeomOK (geom RC req)) (hp : req.precision = .double)
    (S : ℕ → ℕ → ℂ) (l : ℕ) :
    let g := geom RC req
    ∑ j ∈ Finset.range g.nye, ∑ i ∈ Finset.range g.nxe, (fieldsAt RC req g S l).1.get j i
      = (g.nye : ℂ) * (g.nxe : ℂ) * (modeCoef RC req g S l 0 0).1 := by
  have h := congrArg Prod.fst (fieldAt_sum req _ hg S l)
  simpa only [Prod.fst_sum, Prod.smul_fst, smul_eq_mul, fieldAt_fst] using h

/-- footprint weights sum to one over the full padded domain, at every level -/
theorem footprint_unit_sum (req : SolveReq ℝ) (hg : GeomOK (geom RC req)) (hp : req.precision = .double)
    (hfp : req.footprint = true) (l : ℕ) :
    let g := geom RC req
    ∑ j ∈ Finset.range g.nye, ∑ i ∈ Finset.range g.nxe,
      (fieldsAt RC req g (srcSpectrum RC req g).get l).2.get j i = 1 := by
  dsimp only
  rw [flux_sum_padded req hg, footprint_unit_spectrum req hfp]
  have hx := hg.Nx_ne
  have hy := hg.Ny_ne
  field_simp

/-- the zero-frequency coefficient of the source spectrum is the mean of the padded source -/
theorem dc_source_is_mean (req : SolveReq ℝ) (hg : GeomOK (geom RC req)) (hfp : req.footprint = false) :
    let g := geom RC req
    (srcSpectrum RC req g).get 0 0 =
      (∑ j ∈ Finset.range g.nye, ∑ i ∈ Finset.range g.nxe, padSrc RC req g j i) / ((g.nye : ℂ) * (g.nxe : ℂ)) := by
  dsimp only
  rw [C02.srcSpectrum_fwd req hg hfp 0 0 hg.ady.pos hg.adx.pos]
  simp only [fwd, sfreq_zero hg.ady.pos, sfreq_zero hg.adx.pos, zero_mul, neg_zero, rootPow_zero, mul_one]

/-- mean flux = mean surface flux (dispersion mode): the flux summed over the full padded domain equals the
padded source summed over the same domain, at every level -/
theorem mean_flux_conserved (req : SolveReq ℝ) (hg : GeomOK (geom RC req)) (hp : req.precision = .double)
    (hfp : req.footprint = false) (l : ℕ) :
    let g := geom RC req
    ∑ j ∈ Finset.range g.nye, ∑ i ∈ Finset.range g.nxe,
      (fieldsAt RC req g (srcSpectrum RC req g).get l).2.get j i
    = ∑ j ∈ Finset.range g.nye, ∑ i ∈ Finset.range g.nxe, padSrc RC req g j i := by
  dsimp only
  rw [flux_sum_padded req hg, dc_source_is_mean req hg hfp]
  have hx := hg.Nx_ne
  have hy := hg.Ny_ne
  field_simp

end BLDFM.C03
