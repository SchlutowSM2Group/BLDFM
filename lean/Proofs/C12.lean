/-
  C12 — a solve is a pure function of its arguments (and of the thread setting, which selects
  the kernel variant): whatever the history of solves, thread changes and FFT-layer resets, the
  output of a request equals its output from a fresh state with the same thread setting.
  Bit-identity of the two kernel variants / of FFTW plans is observed, not proved (partial).
-/
import BLDFM.Runtime

open BLDFM

namespace BLDFM.C12

def finalState (s : RtState) (ops : List RtOp) : RtState := (rtRun s ops).1

/-- the output of a solve depends only on the request and on whether more than one numerical
thread is configured — not on the FFT manager, not on which kernels were compiled before -/
theorem solve_output_state_free (s s' : RtState) (r : RtSolve)
    (h : decide (s.numThreads > 1) = decide (s'.numThreads > 1)) : solveOut s r = solveOut s' r := by
  simp only [solveOut, h]

/-- history freedom: after any history, a solve returns what it returns from the initial state
with the same thread setting (`solveOut` reads nothing of the state but `numThreads`, so `hist` is not used) -/
theorem solve_output_history_free (hist : List RtOp) (r : RtSolve) :
    let s := finalState RtState.init hist
    solveOut s r = solveOut { RtState.init with numThreads := s.numThreads } r := by
  intro s
  exact solve_output_state_free _ _ r rfl

theorem getMgr_numThreads (s : RtState) (t : Nat) : (getMgr s t).numThreads = s.numThreads := by
  unfold getMgr
  split
  · split <;> rfl
  · rfl

theorem getMgr_fftMgr (s : RtState) (t : Nat) : (getMgr s t).fftMgr = some t := by
  unfold getMgr
  split
  next t' h =>
    split
    next ht => rw [h, ht]
    next => rfl
  · rfl

theorem solveState_numThreads (s : RtState) (r : RtSolve) : (solveState s r).numThreads = s.numThreads := by
  simp only [solveState, apply_ite RtState.numThreads, getMgr_numThreads, ite_self]

/-- repeating a call: the same request twice in a row gives the same output -/
theorem repeat_same (s : RtState) (r : RtSolve) :
    solveOut (solveState s r) r = solveOut s r :=
  solve_output_state_free _ _ r (by rw [solveState_numThreads])

/-- no operation other than `setThreads` / `workerReset` changes the thread setting -/
theorem threads_only_by_set (s : RtState) (op : RtOp)
    (h1 : ∀ n, op ≠ .setThreads n) (h2 : op ≠ .workerReset) : (rtStep s op).1.numThreads = s.numThreads := by
  cases op with
  | setThreads n => exact absurd rfl (h1 n)
  | solve r => exact solveState_numThreads s r
  | fft2 => exact getMgr_numThreads s 1
  | resetFft => rfl
  | workerReset => exact absurd rfl h2

/-- after any solve the FFT manager exists with exactly one thread -/
theorem mgr_after_solve (s : RtState) (r : RtSolve) : (solveState s r).fftMgr = some 1 := by
  unfold solveState
  exact getMgr_fftMgr _ 1

/-- the pool workers' reset reaches a canonical state in everything a solve reads: one thread, no
manager — whatever state the parent forked -/
theorem worker_reset_canonical (parent : RtState) :
    (rtStep parent .workerReset).1.numThreads = 1 ∧ (rtStep parent .workerReset).1.fftMgr = none := ⟨rfl, rfl⟩

/-- hence in a worker every solve returns what a fresh single-threaded process returns -/
theorem worker_solve_eq_fresh (parent : RtState) (r : RtSolve) :
    solveOut (rtStep parent .workerReset).1 r = solveOut RtState.init r :=
  solve_output_state_free _ _ r rfl

/-! non-vacuity: the state after a thread change, a numerical solve, an FFT reset and an analytic solve -/
example : finalState RtState.init [.setThreads 4, .solve ⟨7, false, false⟩, .resetFft, .solve ⟨8, true, true⟩]
    = { numThreads := 4, fftMgr := some 1, pyfftwThreads := some 1, compiledSerial := false, compiledParallel := true } := by
  decide

end BLDFM.C12
