/-
  C07 (field level, whole model pipeline) — exchanging the axes: the request with the source transposed and
  wind components, horizontal diffusivities, domain extents, mode counts and measurement point swapped returns the
  transposed fields on the padded grid, at every level, in both modes, numeric and analytic, for every halo,
  truncation and parity.  (No Nyquist exception: the transposition only re-orders the double sum.)
-/
import Proofs.C02
import Proofs.C07
import Proofs.C10
import Proofs.Lemmas.Witness

open BLDFM BLDFM.Spec BLDFM.Index

namespace BLDFM.C07

/-- `r'` is `r` with the two horizontal axes exchanged -/
structure Transposed (r r' : SolveReq ℝ) : Prop where
  hny : r'.ny = r.nx
  hnx : r'.nx = r.ny
  hq : ∀ j i, r'.q j i = r.q i j
  hP : r'.P = swapXY r.P
  hxmx : r'.xmx = r.ymx
  hymx : r'.ymx = r.xmx
  hnlx : r'.nlx = r.nly
  hnly : r'.nly = r.nlx
  hxm : r'.xm = r.ym
  hym : r'.ym = r.xm
  hhalo : r'.halo = r.halo
  hnz : r'.nz = r.nz
  hz : r'.z = r.z
  hlv : r'.levels = r.levels
  hbg : r'.bg = r.bg
  hfp : r'.footprint = r.footprint
  han : r'.analytic = r.analytic
  hpr : r'.precision = r.precision

section
variable {r r' : SolveReq ℝ} (h : Transposed r r')
include h

theorem tr_geom : geom RC r' =
    { dx := (geom RC r).dy, dy := (geom RC r).dx, halo := (geom RC r).halo, px := (geom RC r).py, py := (geom RC r).px,
      nxe := (geom RC r).nye, nye := (geom RC r).nxe, nlx := (geom RC r).nly, nly := (geom RC r).nlx,
      dlx := (geom RC r).dly, dly := (geom RC r).dlx } := by
  -- the default halo is `max xmx ymx`
  have hmax : (if r.ymx < r.xmx then r.xmx else r.ymx) = if r.xmx < r.ymx then r.ymx else r.xmx := by
    rw [← max_def_lt, ← max_def_lt, max_comm]
  have hclamp : ∀ M N, clampModes r.nly r.nlx N M = ((clampModes r.nlx r.nly M N).2, (clampModes r.nlx r.nly M N).1) := by
    intro M N
    unfold clampModes
    by_cases hc : r.nlx > M ∨ r.nly > N
    · rw [if_pos hc, if_pos hc.symm]
    · rw [if_neg hc, if_neg (mt Or.symm hc)]
  unfold geom
  simp only [h.hxmx, h.hymx, h.hnx, h.hny, h.hhalo, h.hnlx, h.hnly, hclamp, hmax]

theorem tr_dx : (geom RC r').dx = (geom RC r).dy := congrArg Geom.dx (tr_geom h)
theorem tr_dy : (geom RC r').dy = (geom RC r).dx := congrArg Geom.dy (tr_geom h)
theorem tr_px : (geom RC r').px = (geom RC r).py := congrArg Geom.px (tr_geom h)
theorem tr_py : (geom RC r').py = (geom RC r).px := congrArg Geom.py (tr_geom h)
theorem tr_nxe : (geom RC r').nxe = (geom RC r).nye := congrArg Geom.nxe (tr_geom h)
theorem tr_nye : (geom RC r').nye = (geom RC r).nxe := congrArg Geom.nye (tr_geom h)
theorem tr_nlx : (geom RC r').nlx = (geom RC r).nly := congrArg Geom.nlx (tr_geom h)
theorem tr_nly : (geom RC r').nly = (geom RC r).nlx := congrArg Geom.nly (tr_geom h)

theorem tr_geomOK (hg : GeomOK (geom RC r)) : GeomOK (geom RC r') := by
  rw [tr_geom h]
  exact ⟨hg.adx, hg.ady, hg.hdx, hg.hdy⟩

theorem tr_waveX (b : ℕ) : waveX RC (geom RC r') b = waveY RC (geom RC r) b := by
  rw [tr_geom h]
  rfl

theorem tr_waveY (a : ℕ) : waveY RC (geom RC r') a = waveX RC (geom RC r) a := by
  rw [tr_geom h]
  rfl

theorem tr_padSrc (J I : ℕ) : padSrc RC r' (geom RC r') J I = padSrc RC r (geom RC r) I J := by
  unfold padSrc
  rw [tr_px h, tr_py h, h.hny, h.hnx, h.hq]
  exact if_congr (by tauto) rfl rfl

theorem tr_srcSpectrum (hg : GeomOK (geom RC r)) (a b : ℕ) (ha : a < (geom RC r).nlx) (hb : b < (geom RC r).nly) :
    (srcSpectrum RC r' (geom RC r')).get a b = (srcSpectrum RC r (geom RC r)).get b a := by
  cases hfp : r.footprint
  · rw [C02.srcSpectrum_fwd r' (tr_geomOK h hg) (h.hfp.trans hfp) a b (by rw [tr_nly h]; exact ha) (by rw [tr_nlx h]; exact hb),
      C02.srcSpectrum_fwd r hg hfp b a hb ha, tr_nxe h, tr_nye h, tr_nlx h, tr_nly h, fwd_fwd_comm,
      mul_comm (((geom RC r).nxe : ℕ) : ℂ)]
    simp only [tr_padSrc h]
  · rw [C03.footprint_unit_spectrum r' (h.hfp.trans hfp), C03.footprint_unit_spectrum r hfp, tr_nxe h, tr_nye h, mul_comm]

theorem tr_modeCoef (hg : GeomOK (geom RC r)) (l a b : ℕ) (ha : a < (geom RC r).nlx) (hb : b < (geom RC r).nly) :
    modeCoef RC r' (geom RC r') (srcSpectrum RC r' (geom RC r')).get l a b
      = modeCoef RC r (geom RC r) (srcSpectrum RC r (geom RC r)).get l b a := by
  rw [← one_smul ℂ (modeCoef RC r _ _ l b a)]
  have hS : (srcSpectrum RC r' (geom RC r')).get a b = 1 * (srcSpectrum RC r (geom RC r)).get b a :=
    (tr_srcSpectrum h hg a b ha hb).trans (one_mul _).symm
  have hK : r'.P.Kz = r.P.Kz := by
    rw [h.hP]
    rfl
  refine modeCoef_congr (han := h.han) (hnz := h.hnz) (hz := h.hz) (hK := hK) (hbg := h.hbg) (h0 := and_comm)
    (hT := fun i => ?_) (hS := hS) (hχ := fun _ => rfl) l
  rw [h.hP, tr_waveX h, tr_waveY h]
  exact Tcoef_swap _ _ _ i

theorem tr_shift (a b : ℕ) : shiftFactor RC r' (geom RC r') a b = shiftFactor RC r (geom RC r) b a := by
  unfold shiftFactor
  rw [tr_waveX h, tr_waveY h, tr_px h, tr_py h, tr_dx h, tr_dy h, h.hfp, h.hxm, h.hym, h.hxmx, h.hymx]
  simp only [add_comm]

/-- axis swap, whole pipeline: the padded-domain fields of the transposed request are the transposed fields -/
theorem transpose_field (hg : GeomOK (geom RC r)) (l J I : ℕ) :
    (fieldsAt RC r' (geom RC r') (srcSpectrum RC r' (geom RC r')).get l).1.get J I
      = (fieldsAt RC r (geom RC r) (srcSpectrum RC r (geom RC r)).get l).1.get I J ∧
    (fieldsAt RC r' (geom RC r') (srcSpectrum RC r' (geom RC r')).get l).2.get J I
      = (fieldsAt RC r (geom RC r) (srcSpectrum RC r (geom RC r)).get l).2.get I J := by
  refine Prod.mk.inj ?_
  rw [fieldsAt_trig r' _ (tr_geomOK h hg), fieldsAt_trig r _ hg, h.hfp, tr_nxe h, tr_nye h, tr_nlx h, tr_nly h,
    ← trig_transpose]
  refine trig_congr (fun a ha b hb => ?_) _ _
  exact congrArg₂ _ (tr_shift h b a) (tr_modeCoef h hg l b a hb ha)

/-- … observed through the public result: the output of the transposed request is the transposed output -/
theorem transpose_output (hg : GeomOK (geom RC r)) (k j i : ℕ) :
    (solveOk RC r').conc k j i = (solveOk RC r).conc k i j ∧ (solveOk RC r').flx k j i = (solveOk RC r).flx k i j :=
  C10.output_of_field (by rw [h.hlv]) fun l => by
    rw [tr_px h, tr_py h]
    exact transpose_field h hg l _ _

end

noncomputable def transposeOf (r : SolveReq ℝ) : SolveReq ℝ where
  ny := r.nx
  nx := r.ny
  nz := r.nz
  q := fun j i => r.q i j
  z := r.z
  P := swapXY r.P
  xmx := r.ymx
  ymx := r.xmx
  levels := r.levels
  nlx := r.nly
  nly := r.nlx
  xm := r.ym
  ym := r.xm
  bg := r.bg
  footprint := r.footprint
  analytic := r.analytic
  halo := r.halo
  precision := r.precision

theorem transposeOf_pair (r : SolveReq ℝ) : Transposed r (transposeOf r) :=
  ⟨rfl, rfl, fun _ _ => rfl, rfl, rfl, rfl, rfl, rfl, rfl, rfl, rfl, rfl, rfl, rfl, rfl, rfl, rfl, rfl⟩

/-! non-vacuity: a non-square request has a transposed partner and meets `GeomOK` -/
example : ∃ r : SolveReq ℝ, Transposed r (transposeOf r) ∧ GeomOK (geom RC r) ∧ r.nx ≠ r.ny :=
  ⟨Witness.wreq false, transposeOf_pair _, Witness.wreq_geomOK false, by decide⟩

end BLDFM.C07
