/-
  C02 (field level, concentration) — the Green's function of the concentration reproduces the concentration
  above background at the tower:  Σ q_pad · (G_fp − bg) = conc_disp(tower cell) − bg,  whole pipeline.
-/
import Proofs.C02b

open BLDFM BLDFM.Spec BLDFM.Index

namespace BLDFM.C02

/-- the DC slot contributes the constant `bg` to every cell (both signs) -/
theorem bg_term (s : ℤ) (g : Geom ℝ) (hg : GeomOK g) (bg : ℂ) (ph : ℕ → ℕ → ℂ) (hph : ph 0 0 = 1) (J I : ℕ) :
    ∑ a ∈ Finset.range g.nly, ∑ b ∈ Finset.range g.nlx,
      ((if a = 0 ∧ b = 0 then bg else 0) * ph a b) * rootPow g.nxe (s * sfreq g.nlx b * I) * rootPow g.nye (s * sfreq g.nly a * J)
      = bg := by
  rw [sum_single_slot hg.ady.pos hg.adx.pos]
  · rw [if_pos ⟨rfl, rfl⟩, hph, sfreq_zero hg.ady.pos, sfreq_zero hg.adx.pos]
    simp only [mul_zero, zero_mul, rootPow_zero, mul_one]
  · intro a _ b _ h
    rw [if_neg h, zero_mul, zero_mul, zero_mul]

/-- footprint reciprocity (concentration above background), whole pipeline -/
theorem footprint_reciprocity_conc (rd : SolveReq ℝ) (hg : GeomOK (geom RC rd)) (hp : rd.precision = .double)
    (hden : DenOK rd) (hfp : rd.footprint = false) (hxm : rd.xm = 0) (hym : rd.ym = 0) (im jm l : ℕ)
    (hdx : (geom RC rd).dx ≠ 0) (hdy : (geom RC rd).dy ≠ 0) :
    let g := geom RC rd
    let rf : SolveReq ℝ := { rd with footprint := true, xm := im * g.dx, ym := jm * g.dy }
    ∑ J ∈ Finset.range g.nye, ∑ I ∈ Finset.range g.nxe,
        padSrc RC rd g J I * ((fieldsAt RC rf g (srcSpectrum RC rf g).get l).1.get J I - (rd.bg : ℂ))
      = (fieldsAt RC rd g (srcSpectrum RC rd g).get l).1.get (jm + g.py) (im + g.px) - (rd.bg : ℂ) := by
  have h := congrArg Prod.fst (footprint_reciprocity rd hg hfp hxm hym im jm l hdx hdy)
  simpa only [Prod.fst_sum, Prod.smul_fst, Prod.fst_sub, smul_eq_mul, fieldAt_fst] using h

end BLDFM.C02
