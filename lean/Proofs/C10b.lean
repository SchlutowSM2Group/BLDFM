/-
  C10 — "any subset and any order of levels": `slice_eq` for positions inside the two level lists.
-/
import Proofs.C10

open BLDFM BLDFM.Spec

namespace BLDFM.C10

/-- two requests that differ only in their level lists return the same slice (fields and height label) wherever they ask for the
same level, at any positions of the two lists -/
theorem slice_depends_only_on_level (req : SolveReq ℝ) (lv lv' : List ℕ) (k k' : ℕ) (hk : k < lv.length) (hk' : k' < lv'.length)
    (h : lv[k] = lv'[k']) :
    let A := solveOk RC { req with levels := lv }
    let B := solveOk RC { req with levels := lv' }
    (∀ j i, A.conc k j i = B.conc k' j i) ∧ (∀ j i, A.flx k j i = B.flx k' j i) ∧ A.Z k = B.Z k' :=
  slice_eq req lv lv' k k' ((getD_toArray lv k hk).trans (h.trans (getD_toArray lv' k' hk').symm))

/-- re-ordering the levels re-orders the slices: with `lv' = lv ∘ σ` (position `k` of the new list holds the level that was at `σ k`) slice `k`
of the new request is slice `σ k` of the old one -/
theorem slices_permuted (req : SolveReq ℝ) (lv lv' : List ℕ) (σ : ℕ → ℕ) (k : ℕ) (hk : k < lv'.length) (hσ : σ k < lv.length)
    (h : lv'[k] = lv[σ k]) :
    let A := solveOk RC { req with levels := lv' }
    let B := solveOk RC { req with levels := lv }
    (∀ j i, A.conc k j i = B.conc (σ k) j i) ∧ (∀ j i, A.flx k j i = B.flx (σ k) j i) ∧ A.Z k = B.Z (σ k) :=
  slice_depends_only_on_level req lv' lv k (σ k) hk hσ h

/-- a level requested twice yields two identical slices -/
theorem repeated_level_same_slice (req : SolveReq ℝ) (k k' : ℕ) (hk : k < req.levels.length) (hk' : k' < req.levels.length)
    (h : req.levels[k] = req.levels[k']) :
    (∀ j i, (solveOk RC req).conc k j i = (solveOk RC req).conc k' j i) ∧
    (∀ j i, (solveOk RC req).flx k j i = (solveOk RC req).flx k' j i) ∧ (solveOk RC req).Z k = (solveOk RC req).Z k' :=
  slice_depends_only_on_level req req.levels req.levels k k' hk hk' h

/-! non-vacuity: `[4, 0, 2]` is `[0, 2, 4]` re-ordered by `σ = (2, 0, 1)` -/
example : ([4, 0, 2] : List ℕ)[0] = ([0, 2, 4] : List ℕ)[2] ∧ ([4, 0, 2] : List ℕ)[1] = ([0, 2, 4] : List ℕ)[0] := ⟨rfl, rfl⟩

end BLDFM.C10
