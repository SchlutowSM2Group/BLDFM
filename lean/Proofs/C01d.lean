/-
  C01 — "… and a decaying constant-coefficient continuation above the top node."
  The solver closes the column with `Q = Kz_top · λ · P` at the top node, `λ` the principal root of
  `λ² = -T_top / Kz_top`.  With the coefficients frozen at their top-node values the column equations (`FrozenSol`) have
  the solutions `e^{-λ z}` and `e^{+λ z}`, and `Q - Kz λ P` is the amplitude of the growing one: for `Re λ > 0` the top
  condition selects the unique continuation of the computed column that does not blow up with height.
-/
import Proofs.C01

open BLDFM BLDFM.Spec

namespace BLDFM.C01

/-- a solution of the frozen-coefficient column equations; required on the whole line, although the statements below
only look at `z ≥ z_N` -/
structure FrozenSol (Kz : ℝ) (T : ℂ) (P Q : ℝ → ℂ) : Prop where
  dP : ∀ z, HasDerivAt P (-(Q z) / (Kz : ℂ)) z
  dQ : ∀ z, HasDerivAt Q (T * P z) z

/-- a solution of `w' = c w` is a multiple of `e^{c z}`: its product with `e^{-c z}` has zero derivative -/
private lemma exp_ode_unique (c : ℂ) (w : ℝ → ℂ) (hw : ∀ z, HasDerivAt w (c * w z) z) (z0 z : ℝ) :
    w z = w z0 * Complex.exp (c * ((z - z0 : ℝ) : ℂ)) := by
  have hg : ∀ z, HasDerivAt (fun z => w z * Complex.exp (-c * (z : ℂ))) 0 z := fun z =>
    ((hw z).mul (hasDerivAt_cexp_mul_ofReal (-c) z)).congr_deriv (by ring)
  have h := is_const_of_deriv_eq_zero (fun z => (hg z).differentiableAt) (fun z => (hg z).deriv) z z0
  calc w z = w z * Complex.exp (-c * (z : ℂ)) * Complex.exp (c * (z : ℂ)) := by
        rw [mul_assoc, ← Complex.exp_add, neg_mul, neg_add_cancel, Complex.exp_zero, mul_one]
    _ = w z0 * (Complex.exp (-c * (z0 : ℂ)) * Complex.exp (c * (z : ℂ))) := by rw [h, mul_assoc]
    _ = w z0 * Complex.exp (c * ((z - z0 : ℝ) : ℂ)) := by
        rw [← Complex.exp_add, Complex.ofReal_sub, mul_sub, neg_mul, neg_add_eq_sub]

/-- the combination `Q - Kz λ P` is the amplitude of the growing mode -/
theorem growing_component (Kz : ℝ) (T μ : ℂ) (hKz : (Kz : ℂ) ≠ 0) (hμ : μ ^ 2 = -T / (Kz : ℂ))
    (P Q : ℝ → ℂ) (h : FrozenSol Kz T P Q) (z0 z : ℝ) :
    Q z - (Kz : ℂ) * μ * P z = (Q z0 - (Kz : ℂ) * μ * P z0) * Complex.exp (μ * ((z - z0 : ℝ) : ℂ)) := by
  have hT : T = -(Kz : ℂ) * μ ^ 2 := by rw [hμ]; field_simp
  apply exp_ode_unique μ (fun z => Q z - (Kz : ℂ) * μ * P z)
  intro z
  refine ((h.dQ z).sub ((h.dP z).const_mul ((Kz : ℂ) * μ))).congr_deriv ?_
  rw [hT]; field_simp; ring

/-- the complementary combination `Q + Kz λ P` is the amplitude of the decaying mode (`-λ` is the other root) -/
theorem decaying_component (Kz : ℝ) (T μ : ℂ) (hKz : (Kz : ℂ) ≠ 0) (hμ : μ ^ 2 = -T / (Kz : ℂ))
    (P Q : ℝ → ℂ) (h : FrozenSol Kz T P Q) (z0 z : ℝ) :
    Q z + (Kz : ℂ) * μ * P z = (Q z0 + (Kz : ℂ) * μ * P z0) * Complex.exp (-μ * ((z - z0 : ℝ) : ℂ)) := by
  simpa only [mul_neg, neg_mul, sub_neg_eq_add] using growing_component Kz T (-μ) hKz (by rwa [neg_sq]) P Q h z0 z

theorem frozenSol_decaying (Kz : ℝ) (T μ qh : ℂ) (hKz : (Kz : ℂ) ≠ 0) (hμ0 : μ ≠ 0) (hμ : μ ^ 2 = -T / (Kz : ℂ)) :
    FrozenSol Kz T (fun z => qh * Complex.exp (-μ * (z : ℂ)) / ((Kz : ℂ) * μ))
      (fun z => qh * Complex.exp (-μ * (z : ℂ))) := by
  have hT : T = -(Kz : ℂ) * μ ^ 2 := by rw [hμ]; field_simp
  have hQ := fun z => (hasDerivAt_cexp_mul_ofReal (-μ) z).const_mul qh
  constructor
  · intro z
    refine ((hQ z).div_const _).congr_deriv ?_
    field_simp
  · intro z
    refine (hQ z).congr_deriv ?_
    rw [hT]
    field_simp

theorem norm_cexp_mul_ofReal (μ : ℂ) (t : ℝ) : ‖Complex.exp (μ * (t : ℂ))‖ = Real.exp (μ.re * t) := by
  rw [Complex.norm_exp, Complex.re_mul_ofReal]

/-- with the top condition the continuation is the decaying exponential -/
theorem continuation_decays (Kz : ℝ) (T μ : ℂ) (hKz : (Kz : ℂ) ≠ 0) (hμ0 : μ ≠ 0) (hμ : μ ^ 2 = -T / (Kz : ℂ))
    (P Q : ℝ → ℂ) (h : FrozenSol Kz T P Q) (zN : ℝ) (htop : Q zN = (Kz : ℂ) * μ * P zN) (z : ℝ) :
    Q z = (Kz : ℂ) * μ * P z ∧ P z = P zN * Complex.exp (-μ * ((z - zN : ℝ) : ℂ))
      ∧ ‖P z‖ = ‖P zN‖ * Real.exp (-μ.re * (z - zN)) := by
  have hg := growing_component Kz T μ hKz hμ P Q h zN z
  rw [htop, sub_self, zero_mul, sub_eq_zero] at hg
  have hd := decaying_component Kz T μ hKz hμ P Q h zN z
  rw [hg, htop] at hd
  have hP : P z = P zN * Complex.exp (-μ * ((z - zN : ℝ) : ℂ)) := by
    have h2 : (2 * ((Kz : ℂ) * μ)) * P z = (2 * ((Kz : ℂ) * μ)) * (P zN * Complex.exp (-μ * ((z - zN : ℝ) : ℂ))) := by
      linear_combination hd
    exact mul_left_cancel₀ (mul_ne_zero two_ne_zero (mul_ne_zero hKz hμ0)) h2
  refine ⟨hg, hP, ?_⟩
  rw [hP, norm_mul, norm_cexp_mul_ofReal, Complex.neg_re]

theorem nonpos_of_mul_exp_le {c r C : ℝ} (hr : 0 < r) (h : ∀ t, 0 ≤ t → c * Real.exp (r * t) ≤ C) : c ≤ 0 := by
  by_contra! hc
  have hC : 0 ≤ C := (mul_nonneg hc.le (Real.exp_pos _).le).trans (h 0 le_rfl)
  -- at `t = C / (c r)`: `c (C/c + 1) ≤ c e^{C/c} ≤ C`
  have h1 := h (C / c / r) (div_nonneg (div_nonneg hC hc.le) hr.le)
  rw [mul_div_cancel₀ _ hr.ne'] at h1
  have h2 := (mul_le_mul_of_nonneg_left (Real.add_one_le_exp (C / c)) hc.le).trans h1
  rw [mul_add, mul_div_cancel₀ _ hc.ne', mul_one] at h2
  linarith

/-- **the top condition is exactly boundedness of the continuation**: a solution of the frozen-coefficient column
equations stays bounded above the top node iff `Q = Kz λ P` there (`Re λ > 0`) -/
theorem bounded_iff_top_condition (Kz : ℝ) (T μ : ℂ) (hKz : (Kz : ℂ) ≠ 0) (hre : 0 < μ.re) (hμ : μ ^ 2 = -T / (Kz : ℂ))
    (P Q : ℝ → ℂ) (h : FrozenSol Kz T P Q) (zN : ℝ) :
    (∃ B : ℝ, ∀ z ≥ zN, ‖P z‖ ≤ B ∧ ‖Q z‖ ≤ B) ↔ Q zN = (Kz : ℂ) * μ * P zN := by
  have hμ0 : μ ≠ 0 := Complex.ne_zero_of_re_pos hre
  constructor
  · -- the growing mode `Q - Kz μ P` has modulus `‖w₀‖ e^{Re μ (z - zN)}` and is bounded by `B + ‖Kz μ‖ B`
    rintro ⟨B, hB⟩
    refine sub_eq_zero.1 (norm_le_zero_iff.1 (nonpos_of_mul_exp_le hre (C := B + ‖(Kz : ℂ) * μ‖ * B) fun t ht => ?_))
    show ‖Q zN - (Kz : ℂ) * μ * P zN‖ * Real.exp (μ.re * t) ≤ B + ‖(Kz : ℂ) * μ‖ * B
    have hg := growing_component Kz T μ hKz hμ P Q h zN (zN + t)
    rw [add_sub_cancel_left] at hg
    have hn : ‖Q (zN + t) - (Kz : ℂ) * μ * P (zN + t)‖ = ‖Q zN - (Kz : ℂ) * μ * P zN‖ * Real.exp (μ.re * t) := by
      rw [hg, norm_mul, norm_cexp_mul_ofReal]
    rw [← hn]
    obtain ⟨hP, hQ⟩ := hB (zN + t) (le_add_of_nonneg_right ht)
    refine (norm_sub_le _ _).trans (add_le_add hQ ?_)
    rw [norm_mul]
    exact mul_le_mul_of_nonneg_left hP (norm_nonneg _)
  · intro htop
    refine ⟨‖P zN‖ + ‖(Kz : ℂ) * μ‖ * ‖P zN‖, fun z hz => ?_⟩
    obtain ⟨hQ, -, hn⟩ := continuation_decays Kz T μ hKz hμ0 hμ P Q h zN htop z
    have hPle : ‖P z‖ ≤ ‖P zN‖ := by
      rw [hn]
      refine mul_le_of_le_one_right (norm_nonneg _) (Real.exp_le_one_iff.2 ?_)
      rw [neg_mul]
      exact neg_nonpos.2 (mul_nonneg hre.le (sub_nonneg.2 hz))
    have hk : 0 ≤ ‖(Kz : ℂ) * μ‖ * ‖P zN‖ := mul_nonneg (norm_nonneg _) (norm_nonneg _)
    constructor
    · linarith
    · rw [hQ, norm_mul]
      have hKP : ‖(Kz : ℂ) * μ‖ * ‖P z‖ ≤ ‖(Kz : ℂ) * μ‖ * ‖P zN‖ := mul_le_mul_of_nonneg_left hPle (norm_nonneg _)
      linarith [hKP, norm_nonneg (P zN)]

/-- **assembled**: any frozen-coefficient continuation of the returned column above the top node — i.e. any solution of
`P' = -Q/Kz_top`, `Q' = T_top P` that starts from the column's top-node values — decays like `e^{-Re λ (z - z_N)}` -/
theorem column_continuation_decays (Pr : Profiles ℝ) (zg : ℕ → ℝ) (top : ℕ) (Lx Ly : ℝ) (qh : ℂ)
    (hden : shootDen Pr zg top Lx Ly ≠ 0) (hKz : Pr.Kz top ≠ 0) (hre : 0 < (eigval RC Pr top Lx Ly).re)
    (P Q : ℝ → ℂ) (h : FrozenSol (Pr.Kz top) (Tcoef RC Pr Lx Ly top) P Q)
    (hP0 : P (zg top) = (columnNum RC Pr zg top Lx Ly qh top).1)
    (hQ0 : Q (zg top) = (columnNum RC Pr zg top Lx Ly qh top).2) (z : ℝ) :
    ‖P z‖ = ‖(columnNum RC Pr zg top Lx Ly qh top).1‖ * Real.exp (-(eigval RC Pr top Lx Ly).re * (z - zg top))
      ∧ Q z = ((Pr.Kz top : ℝ) : ℂ) * eigval RC Pr top Lx Ly * P z := by
  have hKz' : ((Pr.Kz top : ℝ) : ℂ) ≠ 0 := by exact_mod_cast hKz
  have hμ0 : eigval RC Pr top Lx Ly ≠ 0 := Complex.ne_zero_of_re_pos hre
  have htop : Q (zg top) = ((Pr.Kz top : ℝ) : ℂ) * eigval RC Pr top Lx Ly * P (zg top) := by
    rw [hP0, hQ0]
    exact column_top_condition Pr zg top Lx Ly qh hden
  obtain ⟨hQ, -, hn⟩ := continuation_decays (Pr.Kz top) _ _ hKz' hμ0 (eigval_sq_Tcoef Pr top Lx Ly) P Q h (zg top) htop z
  exact ⟨by rw [hn, hP0], hQ⟩

/-- `FrozenSol` is inhabited: the decaying exponential pair, which has `Q = Kz μ P` at every height -/
example (Kz : ℝ) (μ : ℂ) (hKz : (Kz : ℂ) ≠ 0) (hμ0 : μ ≠ 0) :
    FrozenSol Kz (-(Kz : ℂ) * μ ^ 2) (fun z => Complex.exp (-μ * (z : ℂ)) / ((Kz : ℂ) * μ))
      (fun z => Complex.exp (-μ * (z : ℂ))) := by
  simpa only [one_mul] using frozenSol_decaying Kz (-(Kz : ℂ) * μ ^ 2) μ 1 hKz hμ0 (by field_simp)

end BLDFM.C01
