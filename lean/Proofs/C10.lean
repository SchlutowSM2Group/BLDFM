/-
  C10 — slice k of a multi-level request is the solution at level `levels[k]`:
  the array a single-level request for that level returns, the corresponding slice
  of a full-column request, labelled with that level's height; any order, repeats,
  top node, numeric and analytic, footprint and dispersion (the whole pipeline).  In the model (`solveOk`) slice `k` is
  by definition the field of node `levels[k]`; that the code's store-by-counter loop does the same is the tie
  (`Bridge.level_store_table`, correspondence run), not these theorems.
-/
import Proofs.Lemmas.Spec

open BLDFM BLDFM.Spec

namespace BLDFM.C10

/-- the derived geometry, the fields of a node and the source spectrum do not depend on which levels are requested -/
theorem geom_indep_levels (req : SolveReq ℝ) (lv : List ℕ) :
    geom RC { req with levels := lv } = geom RC req := rfl

theorem fieldsAt_indep_levels (req : SolveReq ℝ) (lv : List ℕ) (g : Geom ℝ) (S : ℕ → ℕ → ℂ) (l : ℕ) :
    fieldsAt RC { req with levels := lv } g S l = fieldsAt RC req g S l := rfl

theorem srcSpectrum_indep_levels (req : SolveReq ℝ) (lv : List ℕ) (g : Geom ℝ) :
    srcSpectrum RC { req with levels := lv } g = srcSpectrum RC req g := rfl

/-- field ⇒ output: slice `k`, cell `(j, i)` of the result holds the real parts of the two padded-domain fields of node `levels[k]`
at the cell `(j + py, i + px)`, so an equation between the fields of two requests at every node carries over to their outputs
wherever the two slices hold the same node -/
theorem output_of_field {r r' : SolveReq ℝ} {k k' j i j' i' : ℕ}
    (hl : r'.levels.toArray.getD k 0 = r.levels.toArray.getD k' 0)
    (hF : ∀ l,
      (fieldsAt RC r' (geom RC r') (srcSpectrum RC r' (geom RC r')).get l).1.get (j + (geom RC r').py) (i + (geom RC r').px)
        = (fieldsAt RC r (geom RC r) (srcSpectrum RC r (geom RC r)).get l).1.get (j' + (geom RC r).py) (i' + (geom RC r).px) ∧
      (fieldsAt RC r' (geom RC r') (srcSpectrum RC r' (geom RC r')).get l).2.get (j + (geom RC r').py) (i + (geom RC r').px)
        = (fieldsAt RC r (geom RC r) (srcSpectrum RC r (geom RC r)).get l).2.get (j' + (geom RC r).py) (i' + (geom RC r).px)) :
    (solveOk RC r').conc k j i = (solveOk RC r).conc k' j' i' ∧ (solveOk RC r').flx k j i = (solveOk RC r).flx k' j' i' := by
  simp only [solveOk, Tab1.get_tab, hl, hF, and_self]

theorem slice_eq (req : SolveReq ℝ) (lv lv' : List ℕ) (k k' : ℕ) (h : lv.toArray.getD k 0 = lv'.toArray.getD k' 0) :
    let A := solveOk RC { req with levels := lv }
    let B := solveOk RC { req with levels := lv' }
    (∀ j i, A.conc k j i = B.conc k' j i) ∧ (∀ j i, A.flx k j i = B.flx k' j i) ∧ A.Z k = B.Z k' :=
  have hc := fun j i => output_of_field (r' := { req with levels := lv }) (r := { req with levels := lv' }) (j := j) (i := i) h
    fun _ => by simp only [geom_indep_levels, srcSpectrum_indep_levels, fieldsAt_indep_levels, and_self]
  ⟨fun j i => (hc j i).1, fun j i => (hc j i).2, congrArg req.z h⟩

/-- slice `k` of any request (any order, repeats allowed) = slice 0 of the
single-level request for `levels[k]`; the height label is that level's height -/
theorem slices_by_level (req : SolveReq ℝ) (k : ℕ) (hk : k < req.levels.length) :
    let one := solveOk RC { req with levels := [req.levels[k]] }
    let all := solveOk RC req
    (∀ j i, all.conc k j i = one.conc 0 j i) ∧ (∀ j i, all.flx k j i = one.flx 0 j i) ∧
      all.Z k = one.Z 0 ∧ all.Z k = req.z (req.levels[k]) := by
  obtain ⟨h1, h2, h3⟩ := slice_eq req req.levels [req.levels[k]] k 0 (getD_toArray _ k hk)
  exact ⟨h1, h2, h3, congrArg req.z (getD_toArray _ k hk)⟩

/-- … and equals slice `levels[k]` of the full-column request `0, 1, …, nz-1` -/
theorem full_column_slice (req : SolveReq ℝ) (k : ℕ) (hk : k < req.levels.length)
    (hin : req.levels[k] < req.nz) :
    let col := solveOk RC { req with levels := List.range req.nz }
    let all := solveOk RC req
    (∀ j i, all.conc k j i = col.conc (req.levels[k]) j i) ∧
      (∀ j i, all.flx k j i = col.flx (req.levels[k]) j i) ∧ all.Z k = col.Z (req.levels[k]) := by
  have hget2 : (List.range req.nz).toArray.getD (req.levels[k]) 0 = req.levels[k] := by
    simp [Array.getD, hin]
  exact slice_eq req req.levels (List.range req.nz) k (req.levels[k]) ((getD_toArray _ k hk).trans hget2.symm)

/-- the number of returned slices is the number of requested levels -/
theorem slice_count (req : SolveReq ℝ) : (solveOk RC req).nlv = req.levels.length :=
  List.size_toArray

/-- a request is rejected (IndexError class) exactly when some level is beyond the top
node, provided modes and precision are valid; otherwise it returns -/
theorem level_range_checked (req : SolveReq ℝ) (hm : req.nlx % 2 = 0 ∧ req.nly % 2 = 0)
    (hp : req.precision ≠ .bad) :
    (solveErr req = some .indexError ↔ ∃ l ∈ req.levels, req.nz ≤ l) ∧
    (solveErr req = none ↔ ∀ l ∈ req.levels, l < req.nz) := by
  have h1 : ¬(req.nlx % 2 > 0 ∨ req.nly % 2 > 0) := by omega
  have hall : (∀ l ∈ req.levels, l < req.nz) ↔ ¬∃ l ∈ req.levels, req.nz ≤ l := by
    simp only [not_exists, not_and, not_le]
  unfold solveErr
  rw [if_neg h1, if_neg hp, hall]
  simp only [List.any_eq_true, ge_iff_le, decide_eq_true_eq]
  split
  · rename_i h
    exact ⟨iff_of_true rfl h, iff_of_false (by simp) (not_not.mpr h)⟩
  · rename_i h
    exact ⟨iff_of_false (by simp) h, iff_of_true rfl h⟩

/-! non-vacuity: an unsorted list with a repeat -/
example : ([2, 0, 2] : List ℕ)[1] = 0 ∧ (1 : ℕ) < ([2, 0, 2] : List ℕ).length := by decide

end BLDFM.C10
