/-
  C19 (mass clause, finite upwind extent) — "its sum tends to the regularised incomplete-gamma mass captured
  within the grid's upwind extent".  Mathlib has no incomplete gamma function; with the upper incomplete gamma
  function written as its defining integral  Γ(μ, s) = ∫_s^∞ t^{μ-1} e^{-t} dt  the mass of the continuous
  crosswind-integrated footprint within the upwind extent `X` is exactly  Γ(μ, ξ/X) / Γ(μ) = Q(μ, ξ/X):

      ∫₀^X ξ^μ x^{-(1+μ)} e^{-ξ/x} dx = ∫_{ξ/X}^∞ t^{μ-1} e^{-t} dt        (substitution t = ξ/x)
-/
import Proofs.C19b

open MeasureTheory Set

namespace BLDFM.C19

/-- upper incomplete gamma function, by its defining integral -/
noncomputable def upperGamma (μ s : ℝ) : ℝ := ∫ t in Ioi s, t ^ (μ - 1) * Real.exp (-t)

/-- regularised upper incomplete gamma function `Q(μ, s) = Γ(μ, s) / Γ(μ)` -/
noncomputable def gammaQ (μ s : ℝ) : ℝ := upperGamma μ s / Real.Gamma μ

/-- `∫₀^X ξ^μ x^{-(1+μ)} e^{-ξ/x} dx = Γ(μ, ξ/X)` -/
theorem km_crosswind_integrated_extent (ξ μ X : ℝ) (hξ : 0 < ξ) (hX : 0 < X) :
    ∫ x in Ioo (0 : ℝ) X, ξ ^ μ * x ^ (-(1 + μ)) * Real.exp (-ξ / x) = upperGamma μ (ξ / X) := by
  -- both sides as integrals over the half line of a truncated integrand, `t = ξ/x` on the right
  have hR : upperGamma μ (ξ / X) = ∫ x in Ioi (0 : ℝ),
      ξ * x ^ (-2 : ℝ) * (Ioi (ξ / X)).indicator (fun t => t ^ (μ - 1) * Real.exp (-t)) (ξ / x) := by
    rw [integral_comp_div_Ioi _ hξ, setIntegral_indicator measurableSet_Ioi, Ioi_inter_Ioi,
      sup_of_le_right (div_pos hξ hX).le, upperGamma]
  rw [hR, ← Ioi_inter_Iio, ← setIntegral_indicator measurableSet_Iio]
  refine setIntegral_congr_fun measurableSet_Ioi fun x hx => ?_
  have hmem : ξ / x ∈ Ioi (ξ / X) ↔ x ∈ Iio X := div_lt_div_iff_of_pos_left hξ hX hx
  by_cases hxX : x ∈ Iio X
  · rw [indicator_of_mem hxX, indicator_of_mem (hmem.2 hxX), euler_comp_div μ hξ hx]
  · rw [indicator_of_notMem hxX, indicator_of_notMem (mt hmem.1 hxX), mul_zero]

/-- **mass of the continuous crosswind-integrated footprint within the upwind extent `X`** is the regularised
incomplete gamma function `Q(μ, ξ/X)` -/
theorem km_mass_within_extent (ξ μ X : ℝ) (hξ : 0 < ξ) (hX : 0 < X) :
    ∫ x in Ioo (0 : ℝ) X, ξ ^ μ * x ^ (-(1 + μ)) * Real.exp (-ξ / x) / Real.Gamma μ = gammaQ μ (ξ / X) := by
  rw [integral_div, km_crosswind_integrated_extent ξ μ X hξ hX]; rfl

/-- consistency with the half-line result: `Γ(μ, 0) = Γ(μ)`, i.e. `Q(μ, 0) = 1` -/
theorem gammaQ_zero (μ : ℝ) (hμ : 0 < μ) : gammaQ μ 0 = 1 := by
  have h : upperGamma μ 0 = Real.Gamma μ := by
    rw [upperGamma, Real.Gamma_eq_integral hμ]
    exact setIntegral_congr_fun measurableSet_Ioi fun t _ => mul_comm _ _
  rw [gammaQ, h, div_self (Real.Gamma_pos_of_pos hμ).ne']

end BLDFM.C19
