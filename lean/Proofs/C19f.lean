/-
  C19 (mass clause, the two-dimensional cell sum).  For `F` continuous on the plane the doubly tagged Riemann sums on the
  uniform `n × m` grid of a rectangle (tags anywhere in their cells, independently per axis) converge to the iterated
  integral, uniformly in the tags.  `kmCell2 ξ μ c p` is the published density `f^y(x) · D_y(x, y)` with plume width
  `σ(x) = c x^p`, `0` for `x ≤ 0`; it is continuous on the whole plane (on the receptor line `e^{-ξ/x}` beats the `1/σ(x)`
  of the Gaussian), so its grid sums converge to the mass of the continuous footprint within the grid's extent.
  Not stated in Lean: that the model's `kmCell` is `res² · kmCell2` (it would follow from `C19.km_cell_eq_published` and
  `plume_width` with `c`, `p` from the constants of `kmPar`); this file and C19b, C19d, C19e do not import the model.
-/
import Proofs.C19e
import Mathlib.MeasureTheory.Integral.DominatedConvergence

open MeasureTheory Set Filter Topology

namespace BLDFM.C19

/-- doubly tagged Riemann sum on the uniform `n × m` grid of `[a, b] × [c, d]` -/
noncomputable def riemannSum2 (F : ℝ → ℝ → ℝ) (a b c d : ℝ) (n m : ℕ) (t s : ℕ → ℝ) : ℝ :=
  ∑ i ∈ Finset.range n, ∑ j ∈ Finset.range m, F (t i) (s j) * ((d - c) / m) * ((b - a) / n)

theorem riemannSum2_eq (F : ℝ → ℝ → ℝ) (a b c d : ℝ) (n m : ℕ) (t s : ℕ → ℝ) :
    riemannSum2 F a b c d n m t s = riemannSum (fun x => riemannSum (F x) c d m s) a b n t := by
  simp only [riemannSum2, riemannSum, Finset.sum_mul]

/-- **two-dimensional Riemann-sum error bound** from a modulus of uniform continuity on the rectangle -/
theorem riemann_sum2_error (F : ℝ → ℝ → ℝ) (hF : Continuous (Function.uncurry F)) (a b c d : ℝ) (hab : a ≤ b) (hcd : c ≤ d)
    (n m : ℕ) (hn : 0 < n) (hm : 0 < m) (ε δ : ℝ)
    (hδ : ∀ x ∈ Icc a b, ∀ x' ∈ Icc a b, ∀ y ∈ Icc c d, ∀ y' ∈ Icc c d, |x - x'| ≤ δ → |y - y'| ≤ δ → |F x y - F x' y'| ≤ ε)
    (hh : (b - a) / n ≤ δ) (hk : (d - c) / m ≤ δ) (t s : ℕ → ℝ) (ht : TagsIn a b n t) (hs : TagsIn c d m s) :
    |riemannSum2 F a b c d n m t s - ∫ x in a..b, ∫ y in c..d, F x y| ≤ 2 * ε * (b - a) * (d - c) := by
  have hFx : ∀ x, Continuous (F x) := fun x => hF.comp (Continuous.prodMk_right x)
  have hG : Continuous fun x => ∫ y in c..d, F x y :=
    intervalIntegral.continuous_parametric_intervalIntegral_of_continuous' hF c d
  have hδ0 : ∀ z : ℝ, |z - z| ≤ δ := fun z => by
    rw [sub_self, abs_zero]
    exact (div_nonneg (sub_nonneg.2 hab) n.cast_nonneg).trans hh
  -- the inner sums are a step function of `x`, within `2 ε (d − c)` of the partial integral on every cell
  rw [riemannSum2_eq, riemannSum, show 2 * ε * (b - a) * (d - c) = (ε * (d - c) + ε * (d - c)) * (b - a) by ring]
  refine gridSum_sub_integral_le (fun x => ∫ y in c..d, F x y) a b hab n hn (fun i => riemannSum (F (t i)) c d m s)
    (ε * (d - c) + ε * (d - c)) (hG.intervalIntegrable a b) fun i hi x hx => ?_
  have hti : t i ∈ Icc a b := cell_subset hab hi (ht i hi)
  have hxi : x ∈ Icc a b := cell_subset hab hi hx
  have hy : ∀ y ∈ Icc c d, ∀ y' ∈ Icc c d, |y - y'| ≤ δ → |F (t i) y - F (t i) y'| ≤ ε :=
    fun y hy y' hy' hyy => hδ _ hti _ hti y hy y' hy' (hδ0 _) hyy
  have h1 : |riemannSum (F (t i)) c d m s - ∫ y in c..d, F (t i) y| ≤ ε * (d - c) :=
    riemann_sum_error (F (t i)) c d hcd m hm ε δ (hFx _).continuousOn hy hk s hs
  have hd : |t i - x| ≤ δ := (abs_sub_le_of_mem_cell (ht i hi) hx).trans hh
  have hx' : ∀ y ∈ Icc c d, |F (t i) y - F x y| ≤ ε := fun y hy => hδ _ hti _ hxi y hy y hy hd (hδ0 _)
  have h2 : |(∫ y in c..d, F (t i) y) - ∫ y in c..d, F x y| ≤ ε * (d - c) :=
    abs_integral_sub_le hcd ((hFx _).intervalIntegrable c d) ((hFx _).intervalIntegrable c d) hx'
  exact (abs_sub_le _ _ _).trans (add_le_add h1 h2)

/-- **two-dimensional Riemann sums of a continuous function converge to the iterated integral**, uniformly in the tags -/
theorem riemann_sum2_tendsto (F : ℝ → ℝ → ℝ) (hF : Continuous (Function.uncurry F)) (a b c d : ℝ) (hab : a ≤ b) (hcd : c ≤ d)
    (ε : ℝ) (hε : 0 < ε) :
    ∃ N : ℕ, ∀ n ≥ N, ∀ m ≥ N, 0 < n → 0 < m → ∀ t s, TagsIn a b n t → TagsIn c d m s →
      |riemannSum2 F a b c d n m t s - ∫ x in a..b, ∫ y in c..d, F x y| ≤ ε := by
  have huc : UniformContinuousOn (Function.uncurry F) (Icc a b ×ˢ Icc c d) :=
    (isCompact_Icc.prod isCompact_Icc).uniformContinuousOn_of_continuous hF.continuousOn
  rw [Metric.uniformContinuousOn_iff_le] at huc
  have hA : 0 ≤ 2 * (b - a) * (d - c) := by
    have := mul_nonneg (sub_nonneg.2 hab) (sub_nonneg.2 hcd); linarith
  obtain ⟨δ, hδpos, hδ⟩ := huc (ε / (2 * (b - a) * (d - c) + 1)) (div_pos hε (by linarith))
  obtain ⟨N1, hN1⟩ := exists_cell_le (b - a) δ hδpos
  obtain ⟨N2, hN2⟩ := exists_cell_le (d - c) δ hδpos
  refine ⟨max N1 N2, fun n hn m hm hn0 hm0 t s ht hs => ?_⟩
  have hmod : ∀ x ∈ Icc a b, ∀ x' ∈ Icc a b, ∀ y ∈ Icc c d, ∀ y' ∈ Icc c d, |x - x'| ≤ δ → |y - y'| ≤ δ →
      |F x y - F x' y'| ≤ ε / (2 * (b - a) * (d - c) + 1) := fun x hx x' hx' y hy y' hy' hxx hyy => by
    have hd : dist (x, y) (x', y') ≤ δ := by
      rw [Prod.dist_eq, Real.dist_eq, Real.dist_eq]
      exact max_le hxx hyy
    have := hδ (x, y) ⟨hx, hy⟩ (x', y') ⟨hx', hy'⟩ hd
    rwa [Real.dist_eq, Function.uncurry_apply_pair, Function.uncurry_apply_pair] at this
  have hcx : (b - a) / n ≤ δ := hN1 n (le_of_max_le_left hn) hn0
  have hcy : (d - c) / m ≤ δ := hN2 m (le_of_max_le_right hm) hm0
  refine (riemann_sum2_error F hF a b c d hab hcd n m hn0 hm0 _ δ hmod hcx hcy t s ht hs).trans ?_
  calc 2 * (ε / (2 * (b - a) * (d - c) + 1)) * (b - a) * (d - c)
      = ε / (2 * (b - a) * (d - c) + 1) * (2 * (b - a) * (d - c)) := by ring
    _ ≤ ε := div_add_one_mul_le hε.le hA

/-- the published cell density: crosswind-integrated footprint times the crosswind Gaussian with the plume width `σ(x) = c · x^p`,
`0` for `x ≤ 0`; for the code's cell `c = σ_v Γ(1/r) / (U Γ(μ)) · (κ r²/U)^{-m/r}`, `p = 1 - m/r` in the notation of
`C19.km_cell_eq_published` (that identification is not a Lean statement) -/
noncomputable def kmCell2 (ξ μ c p x y : ℝ) : ℝ :=
  if 0 < x then
    (ξ ^ μ * x ^ (-(1 + μ)) * Real.exp (-ξ / x) / Real.Gamma μ) *
      (Real.exp (-(y ^ 2) / (2 * (c * x ^ p) ^ 2)) / (Real.sqrt (2 * Real.pi) * (c * x ^ p)))
  else 0

/-- the envelope of the cell density in `y`: `K · x^{-(1+μ+p)} e^{-ξ/x}`, `0` for `x ≤ 0` -/
noncomputable def kmEnv (ξ μ c p x : ℝ) : ℝ :=
  if 0 < x then |ξ ^ μ / Real.Gamma μ / (Real.sqrt (2 * Real.pi) * c)| * (x ^ (-(1 + (μ + p))) * Real.exp (-ξ / x)) else 0

theorem kmEnv_tendsto (ξ μ c p : ℝ) (hξ : 0 < ξ) : Tendsto (kmEnv ξ μ c p) (𝓝 0) (𝓝 0) :=
  tendsto_receptor ξ (μ + p) _ hξ (fun _ hx => if_neg hx.not_gt) fun _ hx => if_pos hx

theorem kmCell2_le_env (ξ μ c p : ℝ) (hc : 0 < c) (x y : ℝ) : |kmCell2 ξ μ c p x y| ≤ kmEnv ξ μ c p x := by
  by_cases hx : 0 < x
  · rw [kmCell2, kmEnv, if_pos hx, if_pos hx]
    have hk : 0 < x ^ (-(1 + (μ + p))) * Real.exp (-ξ / x) := mul_pos (Real.rpow_pos_of_pos hx _) (Real.exp_pos _)
    have hg : Real.exp (-(y ^ 2) / (2 * (c * x ^ p) ^ 2)) ≤ 1 :=
      Real.exp_le_one_iff.2 (div_nonpos_of_nonpos_of_nonneg (neg_nonpos.2 (sq_nonneg y)) (by positivity))
    -- the Gaussian's prefactor `1/σ(x)` joins the power of `x`; what is left of the Gaussian is at most one
    have hsplit : x ^ (-(1 + (μ + p))) = x ^ (-(1 + μ)) / x ^ p := by
      rw [← Real.rpow_sub hx]
      congr 1
      ring
    have e : (ξ ^ μ * x ^ (-(1 + μ)) * Real.exp (-ξ / x) / Real.Gamma μ) *
        (Real.exp (-(y ^ 2) / (2 * (c * x ^ p) ^ 2)) / (Real.sqrt (2 * Real.pi) * (c * x ^ p)))
        = (ξ ^ μ / Real.Gamma μ / (Real.sqrt (2 * Real.pi) * c)) * (x ^ (-(1 + (μ + p))) * Real.exp (-ξ / x))
          * Real.exp (-(y ^ 2) / (2 * (c * x ^ p) ^ 2)) := by
      rw [hsplit]
      ring
    rw [e, abs_mul, abs_mul, abs_of_pos (Real.exp_pos _), abs_of_pos hk]
    exact mul_le_of_le_one_right (by positivity) hg
  · simp [kmCell2, kmEnv, hx]

theorem kmCell2_continuous (ξ μ c p : ℝ) (hξ : 0 < ξ) (hc : 0 < c) :
    Continuous (Function.uncurry (kmCell2 ξ μ c p)) := by
  rw [continuous_iff_continuousAt]
  rintro ⟨x0, y0⟩
  rcases lt_trichotomy x0 0 with hneg | rfl | hpos
  · -- downwind of the receptor the density vanishes identically
    have hev : ∀ᶠ q : ℝ × ℝ in 𝓝 (x0, y0), q.1 < 0 := continuous_fst.continuousAt.eventually_lt continuousAt_const hneg
    exact continuousAt_const.congr (hev.mono fun q hq => (if_neg (not_lt.2 hq.le)).symm)
  · -- on the receptor line the envelope closes the gap
    rw [ContinuousAt, show Function.uncurry (kmCell2 ξ μ c p) (0, y0) = 0 from if_neg (lt_irrefl _)]
    exact squeeze_zero_norm (fun q => kmCell2_le_env ξ μ c p hc q.1 q.2)
      ((kmEnv_tendsto ξ μ c p hξ).comp (continuous_fst.tendsto (0, y0)))
  · -- upwind: the closed form
    have hev : ∀ᶠ q : ℝ × ℝ in 𝓝 (x0, y0), 0 < q.1 := continuousAt_const.eventually_lt continuous_fst.continuousAt hpos
    refine ContinuousAt.congr ?_ (hev.mono fun q hq => (if_pos hq).symm)
    have cfst : ContinuousAt (fun q : ℝ × ℝ => q.1) (x0, y0) := continuous_fst.continuousAt
    have csnd : ContinuousAt (fun q : ℝ × ℝ => q.2) (x0, y0) := continuous_snd.continuousAt
    have c1 : ContinuousAt (fun q : ℝ × ℝ => q.1 ^ (-(1 + μ))) (x0, y0) := cfst.rpow_const (Or.inl hpos.ne')
    have c2 : ContinuousAt (fun q : ℝ × ℝ => c * q.1 ^ p) (x0, y0) :=
      continuousAt_const.mul (cfst.rpow_const (Or.inl hpos.ne'))
    have c3 : ContinuousAt (fun q : ℝ × ℝ => Real.exp (-ξ / q.1)) (x0, y0) :=
      Real.continuous_exp.continuousAt.comp (continuousAt_const.div cfst hpos.ne')
    have hσ : c * x0 ^ p ≠ 0 := (mul_pos hc (Real.rpow_pos_of_pos hpos p)).ne'
    have c4 : ContinuousAt (fun q : ℝ × ℝ => Real.exp (-(q.2 ^ 2) / (2 * (c * q.1 ^ p) ^ 2))) (x0, y0) :=
      Real.continuous_exp.continuousAt.comp
        (((csnd.pow 2).neg).div (continuousAt_const.mul (c2.pow 2)) (mul_ne_zero two_ne_zero (pow_ne_zero 2 hσ)))
    have hs : Real.sqrt (2 * Real.pi) ≠ 0 := (Real.sqrt_pos.2 (by positivity)).ne'
    exact (((continuousAt_const.mul c1).mul c3).div_const _).mul (c4.div (continuousAt_const.mul c2) (mul_ne_zero hs hσ))

/-- **the two-dimensional cell sums of the published cell density converge to the mass of the continuous footprint captured by the grid's
extent** `[0, X] × [-W, W]`, whichever point of each cell is sampled -/
theorem km_cell_sum_tendsto (ξ μ c p X W : ℝ) (hξ : 0 < ξ) (hc : 0 < c) (hX : 0 ≤ X) (hW : 0 ≤ W) (ε : ℝ) (hε : 0 < ε) :
    ∃ N : ℕ, ∀ n ≥ N, ∀ m ≥ N, 0 < n → 0 < m → ∀ t s, TagsIn 0 X n t → TagsIn (-W) W m s →
      |riemannSum2 (kmCell2 ξ μ c p) 0 X (-W) W n m t s - ∫ x in (0 : ℝ)..X, ∫ y in (-W)..W, kmCell2 ξ μ c p x y| ≤ ε :=
  riemann_sum2_tendsto (kmCell2 ξ μ c p) (kmCell2_continuous ξ μ c p hξ hc) 0 X (-W) W hX (by linarith) ε hε

/-- the cell density is the product the one-dimensional theorems are about: `kmFy` times the crosswind Gaussian of width `σ(x)` -/
theorem kmCell2_eq (ξ μ c p x y : ℝ) (hx : 0 < x) :
    kmCell2 ξ μ c p x y = kmFy ξ μ x * (Real.exp (-(y ^ 2) / (2 * (c * x ^ p) ^ 2)) / (Real.sqrt (2 * Real.pi) * (c * x ^ p))) := by
  simp only [kmCell2, kmFy, if_pos hx]

end BLDFM.C19
