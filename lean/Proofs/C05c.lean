/-
  C05 (order clause, sharp form) — "halving the layer thickness reduces the error about eightfold".
  `Proofs/C05b.lean` bounds the error from above by a quantity cubic in the layer thickness.  Here the error of the
  uniform-profile column on a uniform grid (n layers of thickness dz, h = n·dz, w = −μ·dz) is shown to be cubic:
  `p₃(w)ⁿ − e^{n w} = −e^{n w}·n·w⁴/24 + O(n‖w‖⁵)`, i.e. error = −e^{−μh}·h·μ⁴·dz³/24 + O(dz⁴), and the leading term at
  dz/2 is exactly one eighth of the leading term at dz.
-/
import Proofs.C05b
import Mathlib.Analysis.Complex.ExponentialBounds

open BLDFM BLDFM.Spec

namespace BLDFM.C05

/-- defect of one layer factor relative to the exact propagator: `p₃(w)·e^{−w} − 1` -/
noncomputable def layerDefect (w : ℂ) : ℂ := p3 w * Complex.exp (-w) - 1

theorem exp_mul_exp_neg (w : ℂ) : Complex.exp w * Complex.exp (-w) = 1 := by
  rw [← Complex.exp_add, add_neg_cancel, Complex.exp_zero]

theorem p3_eq (w : ℂ) : p3 w = Complex.exp w * (1 + layerDefect w) := by
  rw [layerDefect, add_sub_cancel, mul_left_comm, exp_mul_exp_neg, mul_one]

/-- the layer defect is `−w⁴/24` up to fifth order -/
theorem layerDefect_leading (w : ℂ) (hw : ‖w‖ ≤ 1) : ‖layerDefect w + w ^ 4 / 24‖ ≤ 1 / 4 * ‖w‖ ^ 5 := by
  -- `R`, the remainder of the exponential series after the `w⁴` term
  have hR : ‖Complex.exp w - (p3 w + w ^ 4 / 24)‖ ≤ 1 / 100 * ‖w‖ ^ 5 := by
    have h5 := Complex.exp_bound hw (n := 5) (by norm_num)
    rw [Finset.sum_range_succ, ← p3_eq_sum] at h5
    refine h5.trans_eq ?_
    norm_num [Nat.factorial]
    ring
  -- `layerDefect w + w⁴/24 = w⁴/24·(1 − e^{−w}) − R·e^{−w}`
  have key : layerDefect w + w ^ 4 / 24
      = w ^ 4 / 24 * (1 - Complex.exp (-w)) - (Complex.exp w - (p3 w + w ^ 4 / 24)) * Complex.exp (-w) := by
    unfold layerDefect
    linear_combination exp_mul_exp_neg w
  have h1 : ‖1 - Complex.exp (-w)‖ ≤ 2 * ‖w‖ := by
    have h := Complex.norm_exp_sub_one_le (x := -w) (by rwa [norm_neg])
    rwa [norm_neg, norm_sub_rev] at h
  have h2 : ‖Complex.exp (-w)‖ ≤ 3 := by
    have h := Complex.norm_exp_le_exp_norm (-w)
    rw [norm_neg] at h
    exact h.trans ((Real.exp_le_exp.2 hw).trans Real.exp_one_lt_three.le)
  rw [key]
  refine (norm_sub_le _ _).trans ?_
  rw [norm_mul, norm_mul, norm_div, norm_pow, Complex.norm_ofNat]
  calc ‖w‖ ^ 4 / 24 * ‖1 - Complex.exp (-w)‖ + ‖Complex.exp w - (p3 w + w ^ 4 / 24)‖ * ‖Complex.exp (-w)‖
      ≤ ‖w‖ ^ 4 / 24 * (2 * ‖w‖) + 1 / 100 * ‖w‖ ^ 5 * 3 := by gcongr
    _ = 17 / 150 * ‖w‖ ^ 5 := by ring
    _ ≤ 1 / 4 * ‖w‖ ^ 5 := mul_le_mul_of_nonneg_right (by norm_num) (by positivity)

theorem layerDefect_le (w : ℂ) (hw : ‖w‖ ≤ 1) : ‖layerDefect w‖ ≤ 1 / 3 * ‖w‖ ^ 4 := by
  have h5 : ‖w‖ ^ 5 ≤ ‖w‖ ^ 4 := pow_le_pow_of_le_one (norm_nonneg w) hw (by norm_num)
  have h : ‖layerDefect w‖ ≤ 1 / 4 * ‖w‖ ^ 5 + ‖w‖ ^ 4 / 24 := by
    have h' := (norm_le_add_norm_add (layerDefect w) (w ^ 4 / 24)).trans
      (add_le_add (layerDefect_leading w hw) le_rfl)
    rwa [norm_div, norm_pow, Complex.norm_ofNat] at h'
  calc ‖layerDefect w‖ ≤ 1 / 4 * ‖w‖ ^ 5 + ‖w‖ ^ 4 / 24 := h
    _ ≤ 1 / 3 * ‖w‖ ^ 4 := by linarith [pow_nonneg (norm_nonneg w) 4]

theorem pow_one_add_remainder (q : ℂ) (n : ℕ) :
    ‖(1 + q) ^ n - 1 - n * q‖ ≤ (n * (n - 1) / 2 : ℝ) * ‖q‖ ^ 2 * (1 + ‖q‖) ^ n := by
  induction n with
  | zero => simp
  | succ n ih =>
    have h1 : ‖1 + q‖ ≤ 1 + ‖q‖ := (norm_add_le _ _).trans_eq (by rw [norm_one])
    have hP : (1 : ℝ) ≤ (1 + ‖q‖) ^ (n + 1) := one_le_pow₀ (le_add_of_nonneg_right (norm_nonneg q))
    have e : (1 + q) ^ (n + 1) - 1 - ((n + 1 : ℕ) : ℂ) * q = (1 + q) * ((1 + q) ^ n - 1 - n * q) + n * q ^ 2 := by
      push_cast; ring
    rw [e]
    calc ‖(1 + q) * ((1 + q) ^ n - 1 - n * q) + n * q ^ 2‖
        ≤ ‖1 + q‖ * ‖(1 + q) ^ n - 1 - n * q‖ + n * ‖q‖ ^ 2 * 1 := by
          refine (norm_add_le _ _).trans_eq ?_
          rw [norm_mul, norm_mul, norm_pow, Complex.norm_natCast, mul_one]
      _ ≤ (1 + ‖q‖) * ((n * (n - 1) / 2 : ℝ) * ‖q‖ ^ 2 * (1 + ‖q‖) ^ n) + n * ‖q‖ ^ 2 * (1 + ‖q‖) ^ (n + 1) := by
          gcongr
      _ = (((n + 1 : ℕ) : ℝ) * (((n + 1 : ℕ) : ℝ) - 1) / 2) * ‖q‖ ^ 2 * (1 + ‖q‖) ^ (n + 1) := by
          push_cast; ring

theorem pow_one_add_remainder_exp (q : ℂ) (n : ℕ) :
    ‖(1 + q) ^ n - 1 - n * q‖ ≤ ((n : ℝ) * ‖q‖) ^ 2 * Real.exp ((n : ℝ) * ‖q‖) := by
  have h1 : (1 + ‖q‖) ^ n ≤ Real.exp ((n : ℝ) * ‖q‖) := by
    rw [Real.exp_nat_mul, add_comm]
    exact pow_le_pow_left₀ (by positivity) (Real.add_one_le_exp _) n
  have h2 : (n * (n - 1) / 2 : ℝ) ≤ (n : ℝ) ^ 2 := by nlinarith [(Nat.cast_nonneg n : (0 : ℝ) ≤ n)]
  calc ‖(1 + q) ^ n - 1 - n * q‖ ≤ (n * (n - 1) / 2 : ℝ) * ‖q‖ ^ 2 * (1 + ‖q‖) ^ n := pow_one_add_remainder q n
    _ ≤ (n : ℝ) ^ 2 * ‖q‖ ^ 2 * Real.exp ((n : ℝ) * ‖q‖) :=
        mul_le_mul (mul_le_mul_of_nonneg_right h2 (by positivity)) h1 (by positivity) (by positivity)
    _ = ((n : ℝ) * ‖q‖) ^ 2 * Real.exp ((n : ℝ) * ‖q‖) := by ring

/-- **leading term of the error on a uniform grid**: `p₃(w)ⁿ − e^{n w} = −e^{n w}·n·w⁴/24 + O(n‖w‖⁵)` -/
theorem uniform_product_leading (w : ℂ) (hw : ‖w‖ ≤ 1) (n : ℕ) :
    ‖p3 w ^ n - Complex.exp (n * w) - (-(Complex.exp (n * w) * (n * (w ^ 4 / 24))))‖
      ≤ ‖Complex.exp (n * w)‖ * ((n : ℝ) * (1 / 4 * ‖w‖ ^ 5)
          + ((n : ℝ) * (1 / 3 * ‖w‖ ^ 4)) ^ 2 * Real.exp ((n : ℝ) * (1 / 3 * ‖w‖ ^ 4))) := by
  have e : p3 w ^ n - Complex.exp (n * w) - (-(Complex.exp (n * w) * (n * (w ^ 4 / 24))))
      = Complex.exp (n * w)
        * (n * (layerDefect w + w ^ 4 / 24) + ((1 + layerDefect w) ^ n - 1 - n * layerDefect w)) := by
    rw [p3_eq w, mul_pow, ← Complex.exp_nat_mul]
    ring
  rw [e, norm_mul]
  refine mul_le_mul_of_nonneg_left ((norm_add_le _ _).trans (add_le_add ?_ ?_)) (norm_nonneg _)
  · rw [norm_mul, Complex.norm_natCast]
    exact mul_le_mul_of_nonneg_left (layerDefect_leading w hw) n.cast_nonneg
  · have hq : ‖layerDefect w‖ ≤ 1 / 3 * ‖w‖ ^ 4 := layerDefect_le w hw
    refine (pow_one_add_remainder_exp _ n).trans ?_
    -- both factors are monotone in `‖layerDefect w‖`; `gcongr` closes the two resulting goals with `hq`
    gcongr

/-- the leading term is cubic in the layer thickness: with `w = −μ·dz`, `n·dz = h`: `n·w⁴/24 = h·μ⁴·dz³/24` -/
theorem leading_term_cubic (μ : ℂ) (dz : ℝ) (n : ℕ) :
    (n : ℂ) * ((-μ * (dz : ℂ)) ^ 4 / 24) = ((n : ℂ) * (dz : ℂ)) * μ ^ 4 * (dz : ℂ) ^ 3 / 24 := by ring

/-- halving the layer thickness (twice as many layers over the same height) divides the leading term by exactly 8 -/
theorem leading_term_halving (μ : ℂ) (dz : ℝ) (n : ℕ) :
    ((2 * n : ℕ) : ℂ) * ((-μ * ((dz / 2 : ℝ) : ℂ)) ^ 4 / 24) = ((n : ℂ) * ((-μ * (dz : ℂ)) ^ 4 / 24)) / 8 := by
  push_cast; ring

/-- the leading term (`uniform_product_leading`) for the numerical flux of a uniform-profile column on a uniform grid
`z i = z₀ + i·dz`:
`numeric − analytic = −q̂·e^{−μ h}·h·μ⁴·dz³/24 + O(dz⁴)`, `h = l·dz` -/
theorem numeric_flux_leading_error (P : Profiles ℝ) (hU : Uniform P) (z0 dz : ℝ) (top : ℕ) (Lx Ly : ℝ) (qh : ℂ)
    (hKz : P.Kz 0 ≠ 0) (hμ0 : eigval RC P top Lx Ly ≠ 0)
    (hden : C01.shootDen P (fun i => z0 + i * dz) top Lx Ly ≠ 0) (l : ℕ)
    (hres : ‖eigval RC P top Lx Ly‖ * |dz| ≤ 1) :
    let μ := eigval RC P top Lx Ly
    let w : ℂ := -μ * (dz : ℂ)
    ‖(columnNum RC P (fun i => z0 + i * dz) top Lx Ly qh l).2 - (columnAna RC P (fun i => z0 + i * dz) top Lx Ly qh l).2
        - (-(qh * (Complex.exp (l * w) * (l * (w ^ 4 / 24)))))‖
      ≤ ‖qh‖ * (‖Complex.exp (l * w)‖ * ((l : ℝ) * (1 / 4 * ‖w‖ ^ 5)
          + ((l : ℝ) * (1 / 3 * ‖w‖ ^ 4)) ^ 2 * Real.exp ((l : ℝ) * (1 / 3 * ‖w‖ ^ 4)))) := by
  intro μ w
  have hstep : ∀ i : ℕ, (((z0 + ((i + 1 : ℕ) : ℝ) * dz) - (z0 + (i : ℝ) * dz) : ℝ) : ℂ) = (dz : ℂ) := by
    intro i; push_cast; ring
  have hh : -μ * (((z0 + (l : ℝ) * dz) - (z0 + ((0 : ℕ) : ℝ) * dz) : ℝ) : ℂ) = l * w := by
    simp only [w]; push_cast; ring
  have hw : ‖w‖ ≤ 1 := by
    simp only [w, μ, norm_mul, norm_neg, Complex.norm_real, Real.norm_eq_abs]
    exact hres
  rw [← Prod.snd_sub, numeric_sub_analytic P hU _ top Lx Ly qh hKz hμ0 hden l, Prod.smul_snd, smul_eq_mul]
  simp only [hstep, Finset.prod_const, Finset.card_range]
  rw [hh]
  have e : (p3 w ^ l - Complex.exp (l * w)) * qh - (-(qh * (Complex.exp (l * w) * (l * (w ^ 4 / 24)))))
      = qh * (p3 w ^ l - Complex.exp (l * w) - (-(Complex.exp (l * w) * (l * (w ^ 4 / 24))))) := by ring
  rw [e, norm_mul]
  exact mul_le_mul_of_nonneg_left (uniform_product_leading w hw l) (norm_nonneg _)

end BLDFM.C05
