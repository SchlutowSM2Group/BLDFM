/-
  C05 — uniform profiles: the analytic branch is the closed-form half-space solution,
  which solves the boundary-value problem; the numerical column is
  `q̂ · ∏ p₃(-μ dz_i)` (third-order accurate layer factor).
-/
import Proofs.C01d
import Mathlib.Tactic.Module

open BLDFM BLDFM.Spec

namespace BLDFM.C05

/-- height-independent profiles -/
def Uniform (P : Profiles ℝ) : Prop :=
  ∀ i, P.u i = P.u 0 ∧ P.v i = P.v 0 ∧ P.Kx i = P.Kx 0 ∧ P.Ky i = P.Ky 0 ∧ P.Kz i = P.Kz 0

theorem Uniform.Kz_eq {P : Profiles ℝ} (hU : Uniform P) (i : ℕ) : P.Kz i = P.Kz 0 := (hU i).2.2.2.2

theorem Uniform.Tcoef_eq {P : Profiles ℝ} (hU : Uniform P) (Lx Ly : ℝ) (i : ℕ) :
    Tcoef RC P Lx Ly i = Tcoef RC P Lx Ly 0 := by
  obtain ⟨h1, h2, h3, h4, -⟩ := hU i
  simp only [Tcoef, h1, h2, h3, h4]

noncomputable def p3 (x : ℂ) : ℂ := 1 + x + x ^ 2 / 2 + x ^ 3 / 6

/-- `p₃` is the partial sum of the exponential series that `Complex.exp_bound` compares with -/
theorem p3_eq_sum (w : ℂ) : p3 w = ∑ m ∈ Finset.range 4, w ^ m / (m.factorial : ℂ) := by
  simp only [Finset.sum_range_succ, Finset.sum_range_zero, Nat.factorial, p3]
  norm_num

/-- the analytic branch is, slot by slot, the closed form
`Q(h) = q̂ e^{-μ h}`, `P(h) = Q(h)/(Kz μ)`, `h = z_l - z_0`, with `μ` the principal root -/
theorem analytic_is_closed_form (P : Profiles ℝ) (z : ℕ → ℝ) (top : ℕ) (Lx Ly : ℝ) (qh : ℂ) (l : ℕ) :
    let μ := eigval RC P top Lx Ly
    columnAna RC P z top Lx Ly qh l =
      (qh * Complex.exp (-μ * ((z l - z 0 : ℝ) : ℂ)) / ((P.Kz top : ℂ) * μ),
       qh * Complex.exp (-μ * ((z l - z 0 : ℝ) : ℂ))) := by
  simp only [columnAna, RC_ofReal, RC_cexp, ofReal_lit_one_div]
  refine Prod.ext ?_ rfl
  ring

/-- mean mode of the analytic branch: linear concentration profile `bg - q̂₀₀ h / Kz` -/
theorem analytic_mean_linear (P : Profiles ℝ) (z : ℕ → ℝ) (top : ℕ) (bg q00 : ℂ) (l : ℕ) :
    meanAna RC P z top bg q00 l = bg - q00 * ((z l - z 0 : ℝ) : ℂ) / (P.Kz top : ℂ) := by
  rw [meanAna, RC_ofReal, RC_ofReal, ofReal_lit_one_div]
  ring

/-- the closed form solves the column ODE `Q' = T P`, `P' = -Q/Kz`, with `Q(0) = q̂`,
and satisfies `Q = Kz μ P` at every height (hence also the top condition) -/
theorem closed_form_solves_bvp (Kz : ℝ) (T μ qh : ℂ) (hKz : (Kz : ℂ) ≠ 0) (hμ0 : μ ≠ 0)
    (hμ : μ ^ 2 = -T / (Kz : ℂ)) (h : ℝ) :
    let Q : ℝ → ℂ := fun h => qh * Complex.exp (-μ * (h : ℂ))
    let Pc : ℝ → ℂ := fun h => Q h / ((Kz : ℂ) * μ)
    HasDerivAt Q (T * Pc h) h ∧ HasDerivAt Pc (-(Q h) / (Kz : ℂ)) h ∧ Q 0 = qh ∧ Q h = (Kz : ℂ) * μ * Pc h := by
  intro Q Pc
  have hs := C01.frozenSol_decaying Kz T μ qh hKz hμ0 hμ
  refine ⟨hs.dQ h, hs.dP h, ?_, ?_⟩
  · simp [Q]
  · simp only [Pc]; field_simp

theorem layerStep_eigen {T k c : ℂ} {x : ℂ × ℂ} (h : colGen T k x = c • x) (dz : ℂ) :
    layerStep T k dz x = p3 (c * dz) • x := by
  rw [layerStep_eq_taylor, h, colGen_smul, h, colGen_smul, colGen_smul, h, p3]
  module

/-- the layer map has `(1, Kz μ)` as an eigenvector with eigenvalue `p₃(-μ dz)`
whenever `T = -Kz μ²` (one-layer identity behind the third-order accuracy) -/
theorem layer_eigenvector (Kz μ dz c : ℂ) (hKz : Kz ≠ 0) :
    layerStep (-Kz * μ ^ 2) (1 / Kz) dz (c, Kz * μ * c) =
      (p3 (-μ * dz) * c, p3 (-μ * dz) * (Kz * μ * c)) := by
  refine layerStep_eigen (c := -μ) ?_ dz
  refine Prod.ext ?_ ?_
  · simp only [colGen, Prod.smul_fst, smul_eq_mul]; field_simp
  · simp only [colGen, Prod.smul_snd, smul_eq_mul]; ring

/-- for uniform profiles the sweep started on the eigen-direction stays on it and
picks up one factor `p₃(-μ dz_i)` per layer -/
theorem ivp_uniform_product (P : Profiles ℝ) (hU : Uniform P) (z : ℕ → ℝ) (Lx Ly : ℝ) (μ c : ℂ)
    (hKz : (P.Kz 0 : ℂ) ≠ 0) (hT : ∀ i, Tcoef RC P Lx Ly i = -(P.Kz 0 : ℂ) * μ ^ 2) (l : ℕ) :
    ivpState RC P z Lx Ly (c, (P.Kz 0 : ℂ) * μ * c) l =
      ((∏ i ∈ Finset.range l, p3 (-μ * ((z (i + 1) - z i : ℝ) : ℂ))) * c,
       (∏ i ∈ Finset.range l, p3 (-μ * ((z (i + 1) - z i : ℝ) : ℂ))) * ((P.Kz 0 : ℂ) * μ * c)) := by
  induction l with
  | zero => simp [ivpState]
  | succ l ih =>
    rw [ivpState, ih, hT l, RC_ofReal (1.0 / P.Kz l), ofReal_lit_one_div, hU.Kz_eq l, RC_ofReal]
    rw [mul_left_comm, layer_eigenvector _ _ _ _ hKz, Finset.prod_range_succ]
    refine Prod.ext ?_ ?_ <;> ring

/-- hence the numerical flux and concentration at node `l` are
`q̂ ∏_{i<l} p₃(-μ dz_i)` and that divided by `Kz μ` -/
theorem numeric_uniform_product (P : Profiles ℝ) (hU : Uniform P) (z : ℕ → ℝ) (top : ℕ) (Lx Ly : ℝ) (qh : ℂ)
    (hKz : (P.Kz 0 : ℂ) ≠ 0)
    (hμ0 : eigval RC P top Lx Ly ≠ 0)
    (hT : ∀ i, Tcoef RC P Lx Ly i = -(P.Kz 0 : ℂ) * (eigval RC P top Lx Ly) ^ 2)
    (hden : C01.shootDen P z top Lx Ly ≠ 0) (l : ℕ) :
    let μ := eigval RC P top Lx Ly
    columnNum RC P z top Lx Ly qh l =
      ((∏ i ∈ Finset.range l, p3 (-μ * ((z (i + 1) - z i : ℝ) : ℂ))) * (qh / ((P.Kz 0 : ℂ) * μ)),
       (∏ i ∈ Finset.range l, p3 (-μ * ((z (i + 1) - z i : ℝ) : ℂ))) * qh) := by
  intro μ
  have hμ0' : μ ≠ 0 := hμ0
  have hstart : ((P.Kz 0 : ℂ) * μ * (qh / ((P.Kz 0 : ℂ) * μ))) = qh := by field_simp
  have hprod := ivp_uniform_product P hU z Lx Ly μ (qh / ((P.Kz 0 : ℂ) * μ)) hKz hT
  rw [hstart] at hprod
  have htopKz : RC.ofReal (P.Kz top) = (P.Kz 0 : ℂ) := by rw [hU.Kz_eq top]; rfl
  rw [← C01.column_unique P z top Lx Ly qh (qh / ((P.Kz 0 : ℂ) * μ)) hden ?_ l, hprod l]
  rw [hprod top, htopKz]
  change _ = _ * μ * _
  field_simp

/-- the hypothesis `hT` of `numeric_uniform_product` holds for uniform profiles with `Kz ≠ 0`: it is `eigval_sq_Tcoef`
of C01 at constant profiles -/
theorem uniform_T_eq (P : Profiles ℝ) (hU : Uniform P) (top : ℕ) (Lx Ly : ℝ) (hKz : P.Kz 0 ≠ 0) (i : ℕ) :
    Tcoef RC P Lx Ly i = -(P.Kz 0 : ℂ) * (eigval RC P top Lx Ly) ^ 2 := by
  have hKzc : (P.Kz 0 : ℂ) ≠ 0 := by exact_mod_cast hKz
  rw [C01.eigval_sq_Tcoef, hU.Kz_eq top, hU.Tcoef_eq _ _ top, hU.Tcoef_eq _ _ i]
  field_simp

/-! `Uniform` is inhabited (oblique wind, anisotropic diffusivity) -/
example : Uniform ⟨fun _ => 2, fun _ => -1, fun _ => 1, fun _ => 3, fun _ => 2⟩ := by
  intro i; exact ⟨rfl, rfl, rfl, rfl, rfl⟩

end BLDFM.C05
