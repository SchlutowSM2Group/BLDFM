/-
  C18 — NetCDF export/import keeps every label attached to its data (placement bijection):
  every (time, tower) cell of the dataset holds that tower's and that step's fields; selecting by
  name / label returns them; per-step met values and per-tower metadata are the right ones.
  Byte fidelity through netCDF4 + zlib + xarray is observed (partial), not proved.
-/
import BLDFM.NcIO
import Mathlib.Data.List.Nodup

open BLDFM

namespace BLDFM.C18

theorem getD_getD (results : List (V × List NcResult)) (ti t : ℕ) (hti : ti < results.length)
    (ht : t < (results[ti]).2.length) :
    (results.getD ti (0, [])).2.getD t NcResult.dflt = (results[ti]).2[t] := by
  simp only [List.getD_eq_getElem?_getD, List.getElem?_eq_getElem hti, List.getElem?_eq_getElem ht, Option.getD_some]

/-- placement: the dataset cell `(t, ti)` holds the arrays of result `t` of the `ti`-th tower, for all
tower and step counts and every cell of 2-D or 3-D fields -/
theorem roundtrip_fields (results : List (V × List NcResult)) (towers : List NcTower)
    (ti t : ℕ) (hti : ti < results.length) (ht : t < (results[ti]).2.length) (c : ℕ) :
    (ncSave results towers).footprint t ti c = ((results[ti]).2[t]).flx c ∧
    (ncSave results towers).concentration t ti c = ((results[ti]).2[t]).conc c := by
  simp only [ncSave]
  rw [getD_getD results ti t hti ht]
  exact ⟨rfl, rfl⟩

/-- the tower coordinate lists the result keys in order; the time coordinate the first tower's timestamps -/
theorem labels (results : List (V × List NcResult)) (towers : List NcTower) :
    (ncSave results towers).towerLabels = results.map (fun p => p.1) ∧
    (∀ n s rest, results = (n, s) :: rest → (ncSave results towers).timeLabels = s.map (fun r => r.timestamp)) := by
  constructor
  · rfl
  · intro n s rest h; subst h; rfl

/-- `ds.sel` on a coordinate whose labels are read off a list of records and are distinct: the label of record `i`
selects position `i` -/
theorem sel_label {α : Type} (f : α → V) (l : List α) (hnd : (l.map f).Nodup) (i : ℕ) (hi : i < l.length) :
    (if (l.map f).idxOf (f l[i]) < (l.map f).length then some ((l.map f).idxOf (f l[i])) else none) = some i := by
  have hi' : i < (l.map f).length := by rwa [List.length_map]
  rw [← List.getElem_map f (h := hi'), hnd.idxOf_getElem i hi', if_pos hi']

/-- selecting a tower by name returns exactly that tower's fields (names distinct) -/
theorem sel_by_name (results : List (V × List NcResult)) (towers : List NcTower)
    (hnd : (results.map (fun p => p.1)).Nodup) (ti : ℕ) (hti : ti < results.length) :
    (ncSave results towers).selTower (results[ti]).1 = some ti := by
  unfold NcDataset.selTower ncSave
  exact sel_label _ results hnd ti hti

/-- selecting a step by its label returns exactly that step (labels distinct — integer default
timestamps always are) -/
theorem sel_by_time (n : V) (s : List NcResult) (rest : List (V × List NcResult)) (towers : List NcTower)
    (hnd : (s.map (fun r => r.timestamp)).Nodup) (t : ℕ) (ht : t < s.length) :
    (ncSave ((n, s) :: rest) towers).selTime (s[t]).timestamp = some t := by
  unfold NcDataset.selTime ncSave
  exact sel_label _ s hnd t ht

/-- tower metadata: if the result keys are the configuration's tower names in configuration order (what
the drivers return, C14) then latitude, longitude and height stored for a name are that tower's own -/
theorem tower_metadata_attached (results : List (V × List NcResult)) (towers : List NcTower)
    (hkeys : results.map (fun p => p.1) = towers.map (fun t => t.name))
    (ti : ℕ) (hti : ti < towers.length) :
    ∃ tw, towers[ti]? = some tw ∧ (ncSave results towers).towerLabels[ti]? = some tw.name ∧
      (ncSave results towers).towerLat ti = some tw.lat ∧ (ncSave results towers).towerLon ti = some tw.lon ∧
      (ncSave results towers).towerZ ti = some tw.zm := by
  have h : towers[ti]? = some towers[ti] := List.getElem?_eq_getElem hti
  rw [(labels results towers).1]
  unfold ncSave
  refine ⟨towers[ti], h, ?_, congrArg (Option.map (·.lat)) h, congrArg (Option.map (·.lon)) h, congrArg (Option.map (·.zm)) h⟩
  rw [hkeys, List.getElem?_map, h]
  rfl

/-- per-step meteorological values are those of step `t` (taken from the first tower; `none`, stored as
NaN, when the forcing is given by roughness length) -/
theorem met_values (n : V) (s : List NcResult) (rest : List (V × List NcResult)) (towers : List NcTower)
    (t : ℕ) (ht : t < s.length) :
    let ds := ncSave ((n, s) :: rest) towers
    ds.ustar t = (s[t]).ustar ∧ ds.mol t = (s[t]).mol ∧ ds.windSpeed t = (s[t]).windSpeed ∧ ds.windDir t = (s[t]).windDir := by
  simp only [ncSave]
  rw [getD_getD ((n, s) :: rest) 0 t (Nat.succ_pos _) ht]
  exact ⟨rfl, rfl, rfl, rfl⟩

/-! non-vacuity: two towers, two steps; cell `(t, ti) = (0, 1)` holds the second tower's first footprint -/
example : (ncSave [(7, [{ NcResult.dflt with timestamp := 1, flx := fun c => 10 + c }, { NcResult.dflt with timestamp := 2 }]),
    (8, [{ NcResult.dflt with flx := fun c => 30 + c }, NcResult.dflt])] []).footprint 0 1 2 = 32 := rfl

end BLDFM.C18
