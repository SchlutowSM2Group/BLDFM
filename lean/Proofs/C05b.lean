/-
  C05 (order clause) — an explicit third-order bound: for uniform profiles the numerical column differs from the
  closed form by at most `exp(E) − 1` with `E = (5/96)·|μ|⁴·δ³·h`, where `δ` bounds the layer thicknesses up to the
  output node, `h = z_l − z_0` and `|μ| δ ≤ 1` (resolved regime).  `E` is cubic in `δ`: halving the layer thickness
  divides it by eight.
-/
import Mathlib.Analysis.Complex.Exponential
import Proofs.C05

open BLDFM BLDFM.Spec

namespace BLDFM.C05

/-- the layer factor is the exponential up to `5/96 |w|⁴` on the unit disc -/
theorem p3_exp_bound (w : ℂ) (hw : ‖w‖ ≤ 1) : ‖Complex.exp w - p3 w‖ ≤ 5 / 96 * ‖w‖ ^ 4 := by
  have h := Complex.exp_bound hw (n := 4) (by norm_num)
  rw [← p3_eq_sum] at h
  refine h.trans_eq ?_
  norm_num [Nat.factorial]
  ring

/-- perturbation of a product of factors of modulus ≤ 1 -/
theorem prod_perturb (a b : ℕ → ℂ) (ε : ℕ → ℝ) (n : ℕ) (hε : ∀ i, i < n → 0 ≤ ε i)
    (hb : ∀ i, i < n → ‖b i‖ ≤ 1) (hab : ∀ i, i < n → ‖a i - b i‖ ≤ ε i) :
    ‖∏ i ∈ Finset.range n, a i - ∏ i ∈ Finset.range n, b i‖ ≤ (∏ i ∈ Finset.range n, (1 + ε i)) - 1 ∧
    ‖∏ i ∈ Finset.range n, b i‖ ≤ 1 := by
  induction n with
  | zero => simp
  | succ n ih =>
    have hn := n.lt_succ_self
    obtain ⟨ihE, ihB⟩ := ih (fun i hi => hε i (hi.trans hn)) (fun i hi => hb i (hi.trans hn))
      (fun i hi => hab i (hi.trans hn))
    have han : ‖a n‖ ≤ 1 + ε n := (norm_le_norm_add_norm_sub' _ _).trans (add_le_add (hb n hn) (hab n hn))
    have hPi : 0 ≤ (∏ i ∈ Finset.range n, (1 + ε i)) - 1 := (norm_nonneg _).trans ihE
    simp only [Finset.prod_range_succ]
    constructor
    · have split : (∏ i ∈ Finset.range n, a i) * a n - (∏ i ∈ Finset.range n, b i) * b n
          = (∏ i ∈ Finset.range n, a i - ∏ i ∈ Finset.range n, b i) * a n
            + (∏ i ∈ Finset.range n, b i) * (a n - b n) := by ring
      rw [split]
      refine (norm_add_le _ _).trans ?_
      rw [norm_mul, norm_mul]
      calc ‖∏ i ∈ Finset.range n, a i - ∏ i ∈ Finset.range n, b i‖ * ‖a n‖ + ‖∏ i ∈ Finset.range n, b i‖ * ‖a n - b n‖
          ≤ ((∏ i ∈ Finset.range n, (1 + ε i)) - 1) * (1 + ε n) + 1 * ε n :=
            add_le_add (mul_le_mul ihE han (norm_nonneg _) hPi) (mul_le_mul ihB (hab n hn) (norm_nonneg _) zero_le_one)
        _ = (∏ i ∈ Finset.range n, (1 + ε i)) * (1 + ε n) - 1 := by ring
    · rw [norm_mul]
      exact mul_le_one₀ ihB (norm_nonneg _) (hb n hn)

theorem prod_one_add_le_exp (ε : ℕ → ℝ) (n : ℕ) (hε : ∀ i, i < n → 0 ≤ ε i) :
    ∏ i ∈ Finset.range n, (1 + ε i) ≤ Real.exp (∑ i ∈ Finset.range n, ε i) := by
  rw [Real.exp_sum]
  refine Finset.prod_le_prod (fun i hi => add_nonneg zero_le_one (hε i (Finset.mem_range.1 hi))) fun i _ => ?_
  rw [add_comm]
  exact Real.add_one_le_exp _

theorem p3_layer_bound (μ : ℂ) {t δ : ℝ} (h0 : 0 ≤ t) (hδ : t ≤ δ) (hres : ‖μ‖ * δ ≤ 1) :
    ‖p3 (-μ * (t : ℂ)) - Complex.exp (-μ * (t : ℂ))‖ ≤ 5 / 96 * ‖μ‖ ^ 4 * δ ^ 3 * t := by
  have hn : ‖-μ * (t : ℂ)‖ = ‖μ‖ * t := by rw [norm_mul, norm_neg, Complex.norm_real, Real.norm_of_nonneg h0]
  have hw : ‖-μ * (t : ℂ)‖ ≤ 1 := by
    rw [hn]
    exact (mul_le_mul_of_nonneg_left hδ (norm_nonneg μ)).trans hres
  rw [norm_sub_rev]
  refine (p3_exp_bound _ hw).trans ?_
  rw [hn, mul_pow, pow_succ t 3, ← mul_assoc, ← mul_assoc]
  gcongr

/-- third-order bound for the product of layer factors against `e^{−μ (z_l − z_0)}`, in the resolved regime `|μ| δ ≤ 1` -/
theorem layer_product_third_order (μ : ℂ) (hμ : 0 ≤ μ.re) (z : ℕ → ℝ) (l : ℕ) (δ : ℝ)
    (hmono : ∀ i, i < l → 0 ≤ z (i + 1) - z i) (hδ : ∀ i, i < l → z (i + 1) - z i ≤ δ) (hres : ‖μ‖ * δ ≤ 1) :
    ‖∏ i ∈ Finset.range l, p3 (-μ * ((z (i + 1) - z i : ℝ) : ℂ)) - Complex.exp (-μ * ((z l - z 0 : ℝ) : ℂ))‖
      ≤ Real.exp (5 / 96 * ‖μ‖ ^ 4 * δ ^ 3 * (z l - z 0)) - 1 := by
  have hexp : Complex.exp (-μ * ((z l - z 0 : ℝ) : ℂ))
      = ∏ i ∈ Finset.range l, Complex.exp (-μ * ((z (i + 1) - z i : ℝ) : ℂ)) := by
    rw [← Complex.exp_sum, ← Finset.mul_sum, ← Complex.ofReal_sum, Finset.sum_range_sub z l]
  have hε : ∀ i, i < l → 0 ≤ 5 / 96 * ‖μ‖ ^ 4 * δ ^ 3 * (z (i + 1) - z i) := fun i hi =>
    mul_nonneg (mul_nonneg (by positivity) (pow_nonneg ((hmono i hi).trans (hδ i hi)) 3)) (hmono i hi)
  rw [hexp]
  refine (prod_perturb _ _ (fun i => 5 / 96 * ‖μ‖ ^ 4 * δ ^ 3 * (z (i + 1) - z i)) l hε (fun i hi => ?_)
    (fun i hi => p3_layer_bound μ (hmono i hi) (hδ i hi) hres)).1.trans ?_
  · -- each exact factor has modulus `e^{-Re μ · dz} ≤ 1`
    rw [Complex.norm_exp, Real.exp_le_one_iff]
    simpa using mul_nonneg hμ (hmono i hi)
  · have h := prod_one_add_le_exp _ l hε
    rw [← Finset.mul_sum, Finset.sum_range_sub z l] at h
    exact sub_le_sub_right h 1

/-- the exponent is cubic in the layer thickness: halving `δ` divides it by eight -/
theorem exponent_cubic (m δ h : ℝ) :
    5 / 96 * m ^ 4 * (δ / 2) ^ 3 * h = (5 / 96 * m ^ 4 * δ ^ 3 * h) / 8 := by ring

theorem numeric_sub_analytic (P : Profiles ℝ) (hU : Uniform P) (z : ℕ → ℝ) (top : ℕ) (Lx Ly : ℝ) (qh : ℂ)
    (hKz : P.Kz 0 ≠ 0) (hμ0 : eigval RC P top Lx Ly ≠ 0) (hden : C01.shootDen P z top Lx Ly ≠ 0) (l : ℕ) :
    columnNum RC P z top Lx Ly qh l - columnAna RC P z top Lx Ly qh l
      = ((∏ i ∈ Finset.range l, p3 (-eigval RC P top Lx Ly * ((z (i + 1) - z i : ℝ) : ℂ)))
          - Complex.exp (-eigval RC P top Lx Ly * ((z l - z 0 : ℝ) : ℂ)))
        • (qh / ((P.Kz 0 : ℂ) * eigval RC P top Lx Ly), qh) := by
  have hKzc : (P.Kz 0 : ℂ) ≠ 0 := by exact_mod_cast hKz
  have hnum := numeric_uniform_product P hU z top Lx Ly qh hKzc hμ0 (fun i => uniform_T_eq P hU top Lx Ly hKz i) hden l
  have hana := analytic_is_closed_form P z top Lx Ly qh l
  have htop : (P.Kz top : ℂ) = (P.Kz 0 : ℂ) := by rw [hU.Kz_eq top]
  simp only at hnum hana
  rw [hnum, hana, htop]
  refine Prod.ext ?_ ?_
  · simp only [Prod.fst_sub, Prod.smul_fst, smul_eq_mul]; ring
  · simp only [Prod.snd_sub, Prod.smul_snd, smul_eq_mul]; ring

/-- the third-order bound (`layer_product_third_order`) for the numerical flux of a uniform-profile column against
the analytic branch -/
theorem numeric_vs_analytic_flux (P : Profiles ℝ) (hU : Uniform P) (z : ℕ → ℝ) (top : ℕ) (Lx Ly : ℝ) (qh : ℂ)
    (hKz : P.Kz 0 ≠ 0) (hμ0 : eigval RC P top Lx Ly ≠ 0) (hden : C01.shootDen P z top Lx Ly ≠ 0)
    (l : ℕ) (δ : ℝ) (hmono : ∀ i, i < l → 0 ≤ z (i + 1) - z i) (hδ : ∀ i, i < l → z (i + 1) - z i ≤ δ)
    (hres : ‖eigval RC P top Lx Ly‖ * δ ≤ 1) :
    ‖(columnNum RC P z top Lx Ly qh l).2 - (columnAna RC P z top Lx Ly qh l).2‖
      ≤ ‖qh‖ * (Real.exp (5 / 96 * ‖eigval RC P top Lx Ly‖ ^ 4 * δ ^ 3 * (z l - z 0)) - 1) := by
  rw [← Prod.snd_sub, numeric_sub_analytic P hU z top Lx Ly qh hKz hμ0 hden l, Prod.smul_snd, smul_eq_mul, norm_mul,
    mul_comm]
  exact mul_le_mul_of_nonneg_left
    (layer_product_third_order _ (C01.eigval_decaying P top Lx Ly) z l δ hmono hδ hres) (norm_nonneg _)

theorem numeric_vs_analytic_conc (P : Profiles ℝ) (hU : Uniform P) (z : ℕ → ℝ) (top : ℕ) (Lx Ly : ℝ) (qh : ℂ)
    (hKz : P.Kz 0 ≠ 0) (hμ0 : eigval RC P top Lx Ly ≠ 0) (hden : C01.shootDen P z top Lx Ly ≠ 0)
    (l : ℕ) (δ : ℝ) (hmono : ∀ i, i < l → 0 ≤ z (i + 1) - z i) (hδ : ∀ i, i < l → z (i + 1) - z i ≤ δ)
    (hres : ‖eigval RC P top Lx Ly‖ * δ ≤ 1) :
    ‖(columnNum RC P z top Lx Ly qh l).1 - (columnAna RC P z top Lx Ly qh l).1‖
      ≤ ‖qh‖ / ‖(P.Kz 0 : ℂ) * eigval RC P top Lx Ly‖
          * (Real.exp (5 / 96 * ‖eigval RC P top Lx Ly‖ ^ 4 * δ ^ 3 * (z l - z 0)) - 1) := by
  rw [← Prod.fst_sub, numeric_sub_analytic P hU z top Lx Ly qh hKz hμ0 hden l, Prod.smul_fst, smul_eq_mul, norm_mul,
    norm_div, mul_comm]
  exact mul_le_mul_of_nonneg_left
    (layer_product_third_order _ (C01.eigval_decaying P top Lx Ly) z l δ hmono hδ hres) (by positivity)

/-! the grid hypotheses of `layer_product_third_order` are satisfiable: ten layers of thickness 1/10, `μ = 1 + i/2` -/
example : (0 : ℝ) ≤ (1 + Complex.I / 2 : ℂ).re ∧ (∀ i : ℕ, i < 10 → (0 : ℝ) ≤ ((i + 1 : ℕ) : ℝ) / 10 - (i : ℝ) / 10) ∧
    (∀ i : ℕ, i < 10 → ((i + 1 : ℕ) : ℝ) / 10 - (i : ℝ) / 10 ≤ 1 / 10) ∧ ‖(1 + Complex.I / 2 : ℂ)‖ * (1 / 10) ≤ 1 := by
  refine ⟨by simp, fun i _ => by push_cast; linarith, fun i _ => by push_cast; linarith, ?_⟩
  have : ‖(1 + Complex.I / 2 : ℂ)‖ ≤ 1 + 1 / 2 := by
    refine (norm_add_le _ _).trans ?_
    simp
  linarith

end BLDFM.C05
