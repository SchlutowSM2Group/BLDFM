/-
  C17, accuracy clause — "for offsets of up to a few kilometres at non-polar latitudes the local distance
  agrees with the great-circle distance to within 0.1 percent".  The statement in radians is `equirect_core`
  (`Proofs.Lemmas.SphereDist`), for a local angle `t ≤ 8·10⁻⁴` (5 km on the model's sphere is 7.85·10⁻⁴ rad).
-/
import Proofs.C17
import Proofs.Lemmas.SphereDist

open BLDFM BLDFM.Spec

namespace BLDFM.C17

/-- **C17 accuracy clause (distance).**  For a reference latitude within ±60° and a point whose local
(equirectangular) distance from the reference origin is at most 5000 m, the local distance computed from the
model's `latlonToXy` agrees with the great-circle distance on the same sphere to within 0.1 %. -/
theorem equirect_distance_accuracy (lat lon refLat refLon : ℝ) (hlat : |refLat| ≤ 60)
    (hd : Real.sqrt ((latlonToXy RC lat lon refLat refLon).1 ^ 2 + (latlonToXy RC lat lon refLat refLon).2 ^ 2) ≤ 5000) :
    let d := Real.sqrt ((latlonToXy RC lat lon refLat refLon).1 ^ 2 + (latlonToXy RC lat lon refLat refLon).2 ^ 2)
    let g := haversine 6371000 lat lon refLat refLon
    (1 - 1 / 1000) * g ≤ d ∧ d ≤ (1 + 1 / 1000) * g := by
  intro d g
  have hdt := local_dist_eq lat lon refLat refLon
  -- 5000 m ≤ 6371000 m · 8·10⁻⁴
  have hε := local_angle_le (ε := 8 / 10000) (hd.trans (by norm_num))
  -- `φ₀`, `a`, `b` are `refLat`, `lat - refLat`, `lon - refLon` in radians, `t` the local angle of `hε`
  obtain ⟨h1, h2⟩ := equirect_core (half_le_cos_deg hlat) (Real.sqrt_nonneg _) (Real.sq_sqrt (by positivity)) hε
  simp only [d, g, haversine, hdt]
  constructor <;> linarith only [h1, h2]

/-! 50°N is an admissible reference latitude (`hlat`); the distance hypothesis `hd` is not instantiated here (it holds at
the reference origin by `origin_maps_to_zero`) -/
example : |(50 : ℝ)| ≤ 60 := by norm_num

end BLDFM.C17
