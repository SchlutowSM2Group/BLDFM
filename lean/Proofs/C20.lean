/-
  C20 — source-area rescaling and percentile contours mean what they say.
  `σ` is any sorting permutation `argsort` may return (`g ∘ σ` non-increasing), so the tie
  freedom of the statement ("cells tied with it may or may not be counted") is built in.
-/
import BLDFM.SourceArea
import Proofs.Lemmas.Spec
import Mathlib.Data.List.Nodup
import Mathlib.Data.List.GetD
import Mathlib.Data.Nat.Count
import Mathlib.Algebra.BigOperators.Group.Finset.Basic
import Mathlib.Algebra.Order.BigOperators.Group.Finset

open BLDFM BLDFM.Spec

namespace BLDFM.C20

theorem prefixSum_eq (f : ℕ → ℝ) (σ : List ℕ) (k : ℕ) :
    prefixSum f σ k = ∑ l ∈ Finset.range k, f (σ.getD l 0) := by
  rw [prefixSum, sumN_lit_eq_sum]

/-- the rescaled value at the cell ranked `k` is the sum of `f` over the cells ranked
strictly before it -/
theorem rescaled_eq_prefix_sum (f : ℕ → ℝ) (σ : List ℕ) (hnd : σ.Nodup) (k : ℕ) (hk : k < σ.length) :
    rescaled f σ (σ[k]) = ∑ l ∈ Finset.range k, f (σ.getD l 0) := by
  rw [rescaled, hnd.idxOf_getElem k hk, if_pos hk, prefixSum_eq]

/-- `0 ≤ out c ≤ total − f c` for a non-negative footprint (so `out c < total` whenever `f c > 0`) -/
theorem rescaled_bounds (f : ℕ → ℝ) (hf : ∀ c, 0 ≤ f c) (σ : List ℕ) (hnd : σ.Nodup) (k : ℕ) (hk : k < σ.length) :
    0 ≤ rescaled f σ (σ[k]) ∧
      rescaled f σ (σ[k]) + f (σ[k]) ≤ ∑ l ∈ Finset.range σ.length, f (σ.getD l 0) := by
  rw [rescaled_eq_prefix_sum f σ hnd k hk, ← List.getD_eq_getElem σ 0 hk, ← Finset.sum_range_succ]
  exact ⟨Finset.sum_nonneg fun l _ => hf _,
    Finset.sum_le_sum_of_subset_of_nonneg (Finset.range_mono hk) fun l _ _ => hf _⟩

/-- the rescaled value does not increase with the rank-defining field: a cell ranked later
(lower `g`) has a value at least as large — the prefix sums of a non-negative field grow -/
theorem rescaled_antitone (f : ℕ → ℝ) (hf : ∀ c, 0 ≤ f c) (σ : List ℕ) (hnd : σ.Nodup)
    (k k' : ℕ) (hkk : k ≤ k') (hk' : k' < σ.length) :
    rescaled f σ (σ[k]'(by omega)) ≤ rescaled f σ (σ[k']) := by
  rw [rescaled_eq_prefix_sum f σ hnd k (by omega), rescaled_eq_prefix_sum f σ hnd k' hk']
  exact Finset.sum_le_sum_of_subset_of_nonneg (Finset.range_mono hkk) fun l _ _ => hf _

/-- with `g ∘ σ` non-increasing, a cell with strictly larger `g` is ranked strictly earlier,
hence `g c < g c' → out c' ≤ out c` -/
theorem rescaled_antitone_in_g (f g : ℕ → ℝ) (hf : ∀ c, 0 ≤ f c) (σ : List ℕ) (hnd : σ.Nodup)
    (hsorted : ∀ a b, ∀ hab : a ≤ b, ∀ hb : b < σ.length, g (σ[b]) ≤ g (σ[a]'(by omega)))
    (k k' : ℕ) (hk : k < σ.length) (hk' : k' < σ.length) (hg : g (σ[k]) < g (σ[k'])) :
    rescaled f σ (σ[k']) ≤ rescaled f σ (σ[k]) := by
  have hlt : k' ≤ k := not_lt.1 fun h => (hsorted k k' h.le hk').not_gt hg
  exact rescaled_antitone f hf σ hnd k' k hlt hk

/-- a strictly increasing `φ` preserves every comparison `g (σ[b]) ≤ g (σ[a])`, so `g` and `φ ∘ g` have the same
sorting permutations; `rescaled` takes `f` and `σ` only and does not occur in the statement -/
theorem rescaled_increasing_map (g : ℕ → ℝ) (φ : ℝ → ℝ) (hφ : StrictMono φ) (σ : List ℕ)
    (a b : ℕ) (ha : a < σ.length) (hb : b < σ.length) :
    (g (σ[b]) ≤ g (σ[a])) ↔ (φ (g (σ[b])) ≤ φ (g (σ[a]))) :=
  hφ.le_iff_le.symm

/-- scaling the footprint scales the rescaled field -/
theorem rescaled_scale (f : ℕ → ℝ) (lam : ℝ) (σ : List ℕ) (c : ℕ) :
    rescaled (fun i => lam * f i) σ c = lam * rescaled f σ c := by
  simp only [rescaled, prefixSum_eq, ← Finset.mul_sum]
  split
  · rfl
  · norm_num

/-- `rfl` because Mathlib defines `Nat.count p n` as `(List.range n).countP p`, which is the body of `searchsortedLeft` -/
theorem searchsorted_eq_count (cs : ℕ → ℝ) (n : ℕ) (t : ℝ) :
    searchsortedLeft cs n t = Nat.count (fun i => cs i < t) n := rfl

theorem searchsorted_mono (cs : ℕ → ℝ) (n : ℕ) (t t' : ℝ) (h : t ≤ t') :
    searchsortedLeft cs n t ≤ searchsortedLeft cs n t' := by
  rw [searchsorted_eq_count, searchsorted_eq_count]
  exact Nat.count_mono_left fun _ _ hi => hi.trans_le h

/-- every entry before the returned index is below the target, and (for a non-decreasing array) the
entry at the returned index reaches it.  For the cumulative sums of `percentileContour` (non-decreasing when the cell values
are non-negative, which is not stated here) this reads: the contour holds the fewest top cells whose sum reaches `p · total` -/
theorem searchsorted_spec (cs : ℕ → ℝ) (n : ℕ) (t : ℝ) (hmono : ∀ i j, i ≤ j → j < n → cs i ≤ cs j) :
    (∀ i, i < searchsortedLeft cs n t → cs i < t) ∧
    (∀ i, searchsortedLeft cs n t ≤ i → i < n → t ≤ cs i) := by
  rw [searchsorted_eq_count]
  constructor
  · -- more than `i` entries below `t`: one of them is at or after `i`
    intro i hi
    obtain ⟨x, hx, hxt⟩ := Nat.exists_of_count_lt_count ((Nat.count_le _).trans_lt hi)
    exact (hmono i x hx.1 hx.2).trans_lt hxt
  · -- an entry below `t` at `i` would put all `i + 1` entries up to it below `t`
    intro i hki hin
    refine not_lt.1 fun hlt => Nat.not_succ_le_self i ?_
    calc i + 1 = Nat.count (fun i => cs i < t) (i + 1) :=
          (Nat.count_iff_forall.2 fun j hj => (hmono j i (Nat.lt_succ_iff.1 hj) hin).trans_lt hlt).symm
      _ ≤ Nat.count (fun i => cs i < t) n := Nat.count_monotone _ hin
      _ ≤ i := hki

/-- area does not decrease with the fraction `p` (cell area positive, total `htot` non-negative: the last cumulative sum of
`percentileContour`, written out) -/
theorem percentile_area_mono (sorted : ℕ → ℝ) (n : ℕ) (cell p p' : ℝ) (hcell : 0 < cell)
    (htot : 0 ≤ sumN (0.0 : ℝ) (n - 1 + 1) sorted * cell) (hp : p ≤ p') :
    (percentileContour RC sorted n cell p).2 ≤ (percentileContour RC sorted n cell p').2 := by
  simp only [percentileContour, RC_natCast]
  gcongr
  exact searchsorted_mono _ n _ _ (mul_le_mul_of_nonneg_right hp htot)

/-- level does not increase with `p` (values sorted in non-increasing order) -/
theorem percentile_level_antitone (sorted : ℕ → ℝ) (n : ℕ) (cell p p' : ℝ)
    (hsorted : ∀ i j, i ≤ j → sorted j ≤ sorted i)
    (htot : 0 ≤ sumN (0.0 : ℝ) (n - 1 + 1) sorted * cell) (hp : p ≤ p') :
    (percentileContour RC sorted n cell p').1 ≤ (percentileContour RC sorted n cell p).1 := by
  simp only [percentileContour]
  exact hsorted _ _ (min_le_min_right _ (searchsorted_mono _ n _ _ (mul_le_mul_of_nonneg_right hp htot)))

theorem searchsorted_scale (cs : ℕ → ℝ) (n : ℕ) (t lam : ℝ) (hlam : 0 < lam) :
    searchsortedLeft (fun k => lam * cs k) n (lam * t) = searchsortedLeft cs n t := by
  simp only [searchsortedLeft, mul_lt_mul_iff_right₀ hlam]

/-- scaling the footprint by `lam > 0` scales the level and leaves the area unchanged -/
theorem percentile_scale (sorted : ℕ → ℝ) (n : ℕ) (cell p lam : ℝ) (hlam : 0 < lam) :
    percentileContour RC (fun i => lam * sorted i) n cell p =
      (lam * (percentileContour RC sorted n cell p).1, (percentileContour RC sorted n cell p).2) := by
  have hs : ∀ m, sumN (0.0 : ℝ) m (fun i => lam * sorted i) * cell = lam * (sumN (0.0 : ℝ) m sorted * cell) := fun m => by
    rw [sumN_lit_eq_sum, sumN_lit_eq_sum, ← Finset.mul_sum, mul_assoc]
  simp only [percentileContour, hs, mul_left_comm p lam, searchsorted_scale _ n _ lam hlam]

theorem upwind_is_projection (x y xm ym u v : ℝ) :
    baseUpwind RC x y xm ym u v = (u * (x - xm) + v * (y - ym)) / Real.sqrt (u ^ 2 + v ^ 2) := by
  simp only [baseUpwind, RC_sqrt]
  ring

theorem crosswind_is_neg_sq_distance (x y xm ym u v : ℝ) :
    baseCrosswind RC x y xm ym u v = -(((-v) * (x - xm) + u * (y - ym)) / Real.sqrt (u ^ 2 + v ^ 2)) ^ 2 := by
  simp only [baseCrosswind, RC_sqrt]
  ring

theorem circular_is_neg_sq_radius (x y xm ym : ℝ) :
    baseCircular x y xm ym = -((x - xm) ^ 2 + (y - ym) ^ 2) := rfl

/-! three cells in the order `[2, 0, 1]`, `f = (1, 2, 3)`: cell 0, ranked second, receives `f 2 = 3` -/
example : ([2, 0, 1] : List ℕ).Nodup ∧ rescaled (fun i => (i : ℝ) + 1) [2, 0, 1] 0 = 3 := by
  refine ⟨by decide, (rescaled_eq_prefix_sum _ [2, 0, 1] (by decide) 1 (by decide)).trans ?_⟩
  norm_num [Finset.sum_range_one]

end BLDFM.C20
