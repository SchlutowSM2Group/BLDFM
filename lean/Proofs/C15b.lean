/-
  C15 (concurrency clause) — several processes sharing one cache directory.
  `BLDFM.CacheProto` models `GreensFunctionCache.__init__/get/put` at the granularity of single
  file-system operations.  For the configuration the code has (temporary file named after the key and
  the writer's pid, renamed onto the entry, nothing removed by the constructor, guarded load): under every
  interleaving no micro-step raises, every hit is sound and no entry is visible half-written.  For each way
  the protocol can be weakened, a concrete interleaving on which it breaks.
-/
import BLDFM.CacheProto
import Mathlib.Tactic.Common

namespace BLDFM.C15

open BLDFM

def GoodCfg (cfg : ProtoCfg) : Prop :=
  cfg.atomicWrite = true ∧ cfg.tempPerProcess = true ∧ cfg.initRemovesTemps = false ∧ cfg.guardedLoad = true

@[simp] theorem FS.look_cons (n m : FName) (c : Option Content) (fs : FS) :
    FS.look ((n, c) :: fs) m = if n = m then c else FS.look fs m := rfl

@[simp] theorem Procs.look_cons (p q : ℕ) (s : PState) (ps : Procs) :
    Procs.look ((p, s) :: ps) q = if p = q then s else Procs.look ps q := rfl

/-- the invariant: entries are complete and were written for their key (`P k res`); a process that
has finished / is inside `savez` owns its temporary file with the content it wrote -/
structure PInv (P : ℕ → ℕ → Prop) (w : PWorld) : Prop where
  final_full : ∀ k, ∃ res, w.fs.look (.final k) = none ∨ (w.fs.look (.final k) = some (.full res) ∧ P k res)
  written_owns : ∀ pid k res, w.procs.look pid = .written k res → w.fs.look (.temp k pid) = some (.full res) ∧ P k res
  writing_owns : ∀ pid k res, w.procs.look pid = .writing k res → w.fs.look (.temp k pid) = some .torn ∧ P k res

/-- the write a step announces is a result computed for that key -/
def StepGood (P : ℕ → ℕ → Prop) : PStep → Prop
  | .beginWrite _ k res => P k res
  | _ => True

theorem target_good {cfg : ProtoCfg} (h : GoodCfg cfg) (k pid : ℕ) : cfg.target k pid = .temp k pid := by
  obtain ⟨h1, h2, _, _⟩ := h
  simp [ProtoCfg.target, h1, h2]

theorem look_temp_other {fs : FS} {k k' pid p : ℕ} {c : Option Content} (h : p ≠ pid) :
    FS.look ((.temp k pid, c) :: fs) (.temp k' p) = fs.look (.temp k' p) := by
  rw [FS.look_cons, if_neg]
  intro he
  injection he with _ hp
  exact h hp.symm

/-- the frame step of `proto_step_inv`: a move of process `pid` leaves the other processes' temporaries as they
are (names carry the pid), so only the entries and the mover's own file remain to be checked -/
theorem PInv.move {P : ℕ → ℕ → Prop} {w : PWorld} (hi : PInv P w) (pid : ℕ) (st : PState) (fs' : FS)
    (hother : ∀ k p, p ≠ pid → fs'.look (.temp k p) = w.fs.look (.temp k p))
    (hfinal : ∀ k, ∃ res, fs'.look (.final k) = none ∨ (fs'.look (.final k) = some (.full res) ∧ P k res))
    (hwritten : ∀ k res, st = .written k res → fs'.look (.temp k pid) = some (.full res) ∧ P k res)
    (hwriting : ∀ k res, st = .writing k res → fs'.look (.temp k pid) = some .torn ∧ P k res) :
    PInv P ⟨fs', (pid, st) :: w.procs⟩ := by
  refine ⟨hfinal, ?_, ?_⟩
  · intro p k res hp
    rw [Procs.look_cons] at hp
    split at hp
    next heq => exact heq ▸ hwritten k res hp
    next hne => exact hother k p (Ne.symm hne) ▸ hi.written_owns p k res hp
  · intro p k res hp
    rw [Procs.look_cons] at hp
    split at hp
    next heq => exact heq ▸ hwriting k res hp
    next hne => exact hother k p (Ne.symm hne) ▸ hi.writing_owns p k res hp

/-- every micro-step of any process preserves the invariant -/
theorem proto_step_inv {cfg : ProtoCfg} (hc : GoodCfg cfg) (P : ℕ → ℕ → Prop) (w : PWorld) (s : PStep)
    (hi : PInv P w) (hs : StepGood P s) : PInv P (pstep cfg w s).1 := by
  have ht := target_good hc
  obtain ⟨h1, -, h3, -⟩ := hc
  cases s with
  | init pid => simpa [pstep, h3] using hi
  | read pid k =>
    simp only [pstep]
    split <;> exact hi
  | crash pid =>
    simp only [pstep]
    exact hi.move pid .idle w.fs (fun _ _ _ => rfl) hi.final_full nofun nofun
  | beginWrite pid k res =>
    simp only [pstep]
    split
    next =>
      rw [ht]
      refine hi.move pid _ _ (fun _ _ => look_temp_other) hi.final_full nofun ?_
      rintro _ _ ⟨⟩
      exact ⟨if_pos rfl, hs⟩
    next => exact hi
  | endWrite pid =>
    simp only [pstep]
    split
    next k res hw =>
      obtain ⟨hfile, hP⟩ := hi.writing_owns pid k res hw
      rw [ht, hfile]
      refine hi.move pid _ _ (fun _ _ => look_temp_other) hi.final_full ?_ nofun
      rintro _ _ ⟨⟩
      exact ⟨if_pos rfl, hP⟩
    next => exact hi
  | rename pid =>
    simp only [pstep]
    split
    next k res hw =>
      obtain ⟨hfile, hP⟩ := hi.written_owns pid k res hw
      rw [h1, if_pos rfl, ht, hfile]
      refine hi.move pid _ _ (fun _ _ => look_temp_other) ?_ nofun nofun
      intro k'
      by_cases hk : k = k'
      · exact ⟨res, Or.inr ⟨by simp [hk], hk ▸ hP⟩⟩
      · obtain ⟨r, hr⟩ := hi.final_full k'
        exact ⟨r, by simpa [hk] using hr⟩
    next => exact hi

/-- no micro-step lets an exception escape: `os.replace` finds its temporary file whatever the other
processes did in between; an unreadable entry cannot exist, and would be a miss anyway -/
theorem proto_step_no_fail {cfg : ProtoCfg} (hc : GoodCfg cfg) (P : ℕ → ℕ → Prop) (w : PWorld) (s : PStep)
    (hi : PInv P w) : (pstep cfg w s).2 ≠ .fail := by
  have ht := target_good hc
  obtain ⟨h1, -, -, h4⟩ := hc
  cases s with
  | init pid => simp only [pstep]; split <;> simp
  | beginWrite pid k res => simp only [pstep]; split <;> simp
  | endWrite pid =>
    simp only [pstep]
    split
    · split <;> simp
    · simp
  | crash pid => simp [pstep]
  | read pid k =>
    simp only [pstep]
    split <;> simp [h4]
  | rename pid =>
    simp only [pstep]
    split
    next k res hw =>
      obtain ⟨hfile, _⟩ := hi.written_owns pid k res hw
      rw [h1, if_pos rfl, ht, hfile]
      simp
    next => simp

/-- a hit returns a complete entry that was written for that key -/
theorem proto_read_sound {cfg : ProtoCfg} (P : ℕ → ℕ → Prop) (w : PWorld) (pid k res : ℕ)
    (hi : PInv P w) (hh : (pstep cfg w (.read pid k)).2 = .hit res) : P k res := by
  obtain ⟨r, hr | ⟨hr, hP⟩⟩ := hi.final_full k
  · simp [pstep, hr] at hh
  · simp only [pstep, hr, POut.hit.injEq] at hh
    exact hh ▸ hP

/-- no entry is visible half-written -/
theorem proto_no_partial_entry (P : ℕ → ℕ → Prop) (w : PWorld) (hi : PInv P w) (k : ℕ) :
    w.fs.look (.final k) ≠ some .torn := by
  obtain ⟨r, hr | ⟨hr, -⟩⟩ := hi.final_full k <;> simp [hr]

/-- every interleaving of the micro-steps of any number of processes (crashes anywhere): the invariant
holds at the end, no step raised, every hit was sound -/
theorem proto_run {cfg : ProtoCfg} (hc : GoodCfg cfg) (P : ℕ → ℕ → Prop) (steps : List PStep) (w : PWorld)
    (hi : PInv P w) (hs : ∀ s ∈ steps, StepGood P s) :
    PInv P (prun cfg w steps).1 ∧ (∀ o ∈ (prun cfg w steps).2, o ≠ .fail) ∧
      (∀ i (h : i < steps.length) pid k res, steps[i] = .read pid k →
        (prun cfg w steps).2[i]? = some (.hit res) → P k res) := by
  induction steps generalizing w with
  | nil => exact ⟨hi, nofun, nofun⟩
  | cons s rest ih =>
    obtain ⟨hs0, hs'⟩ := List.forall_mem_cons.1 hs
    obtain ⟨a, b, c⟩ := ih (pstep cfg w s).1 (proto_step_inv hc P w s hi hs0) hs'
    simp only [prun]
    refine ⟨a, List.forall_mem_cons.2 ⟨proto_step_no_fail hc P w s hi, b⟩, ?_⟩
    intro i h pid k res hstep hout
    cases i with
    | zero =>
      simp only [List.getElem_cons_zero] at hstep
      simp only [List.getElem?_cons_zero] at hout
      cases hstep
      exact proto_read_sound P w pid k res hi (Option.some.inj hout)
    | succ j =>
      simp only [List.getElem_cons_succ] at hstep
      simp only [List.getElem?_cons_succ] at hout
      exact c j (Nat.lt_of_succ_lt_succ h) pid k res hstep hout

/-- the empty directory with every process idle satisfies the invariant -/
theorem pinv_empty (P : ℕ → ℕ → Prop) : PInv P ⟨[], []⟩ :=
  ⟨fun _ => ⟨0, Or.inl rfl⟩, nofun, nofun⟩

/-- the protocol the code has: the literal that `Bridge.proto_cfg_table` pins the extracted `Generated.Tables.protoCfg` to
(this file does not import the generated tables) -/
def codeCfg : ProtoCfg := ⟨true, true, false, true⟩

example : GoodCfg codeCfg := ⟨rfl, rfl, rfl, rfl⟩

/-- non-vacuity: two processes storing the same key, interleaved, and a reader: no step fails, both reads hit -/
example : (prun codeCfg ⟨[], []⟩ [.init 1, .beginWrite 1 7 70, .init 2, .beginWrite 2 7 70, .endWrite 1, .endWrite 2,
    .rename 2, .read 3 7, .rename 1, .read 3 7]).2 = [.ok, .ok, .ok, .ok, .ok, .ok, .ok, .hit 70, .ok, .hit 70] := by decide

/-- a constructor that "cleans up stale temporaries" deletes the file of a writer that is still
running: its `os.replace` raises -/
theorem init_cleanup_breaks_rename :
    (prun { codeCfg with initRemovesTemps := true } ⟨[], []⟩
      [.init 1, .beginWrite 1 7 70, .endWrite 1, .init 2, .rename 1]).2 = [.ok, .ok, .ok, .ok, .fail] := by decide

/-- one temporary name per key (no pid): a second writer truncates the file the first one is about to
publish, and a half-written entry becomes visible -/
theorem shared_temp_publishes_partial :
    ((prun { codeCfg with tempPerProcess := false } ⟨[], []⟩
      [.beginWrite 1 7 70, .endWrite 1, .beginWrite 2 7 70, .rename 1]).1.fs.look (.final 7)) = some .torn := by decide

/-- writing in place: a process that dies inside `savez` leaves a half-written entry -/
theorem inplace_crash_leaves_partial :
    ((prun { codeCfg with atomicWrite := false } ⟨[], []⟩ [.beginWrite 1 7 70, .crash 1]).1.fs.look (.final 7)) = some .torn := by decide

/-- ... which is fatal for the next reader unless the load is guarded -/
theorem unguarded_partial_is_fatal :
    (prun { codeCfg with atomicWrite := false, guardedLoad := false } ⟨[], []⟩ [.beginWrite 1 7 70, .crash 1, .read 2 7]).2
      = [.ok, .ok, .fail] := by decide

end BLDFM.C15
