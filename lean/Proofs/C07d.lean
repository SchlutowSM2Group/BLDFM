/-
  C07 (field level, whole model pipeline) — length similarity: multiplying all lengths (domain extents, node heights,
  halo, measurement point) and all diffusivities by a common factor `s > 0` leaves both fields unchanged, at every
  level and cell, in both modes, numeric and analytic, for every truncation and parity.
-/
import Proofs.Lemmas.Trig
import Proofs.C07
import Proofs.C10
import Proofs.Lemmas.Witness

open BLDFM BLDFM.Spec BLDFM.Index

namespace BLDFM.C07

/-- `r'` is `r` with all lengths and all diffusivities times `s` -/
def LenScaled (s : ℝ) (r r' : SolveReq ℝ) : Prop :=
  r' = { r with xmx := s * r.xmx, ymx := s * r.ymx, z := fun i => s * r.z i, halo := r.halo.map (fun x => s * x),
                xm := s * r.xm, ym := s * r.ym, P := scaleK s r.P }

theorem resistNum_length (P : Profiles ℝ) (z : ℕ → ℝ) (s : ℝ) (hs : s ≠ 0) (l : ℕ) :
    resistNum (scaleK s P) (fun i => s * z i) l = resistNum P z l :=
  (resistNum_similarity (z := z) one_ne_zero (scaleK_Kz s P) (fun _ => rfl) hs l).trans (div_one _)

theorem columnAna_length (P : Profiles ℝ) (z : ℕ → ℝ) (top : ℕ) (Lx Ly s : ℝ) (hs : 0 < s) (qh : ℂ) (l : ℕ) :
    columnAna RC (scaleK s P) (fun i => s * z i) top (Lx / s) (Ly / s) qh l = columnAna RC P z top Lx Ly qh l := by
  have h := column_similarity (z := z) one_ne_zero (Tcoef_length P Lx Ly s hs.ne') (scaleK_Kz s P)
    (fun _ => rfl) hs true top qh l
  rwa [Complex.ofReal_one, div_one] at h

section
variable {s : ℝ} {r r' : SolveReq ℝ} (h : LenScaled s r r') (hs : 0 < s)
include h hs

theorem ls_geom : geom RC r' = { geom RC r with dx := s * (geom RC r).dx, dy := s * (geom RC r).dy, halo := s * (geom RC r).halo } := by
  -- the default halo `max xmx ymx` scales with the extents
  have hmax : (if s * r.xmx < s * r.ymx then s * r.ymx else s * r.xmx) = s * (if r.xmx < r.ymx then r.ymx else r.xmx) := by
    simp only [mul_lt_mul_iff_right₀ hs, mul_ite]
  have hdx : s * r.xmx / RC.natCast r.nx = s * (r.xmx / RC.natCast r.nx) := mul_div_assoc _ _ _
  have hdy : s * r.ymx / RC.natCast r.ny = s * (r.ymx / RC.natCast r.ny) := mul_div_assoc _ _ _
  rw [show r' = _ from h]
  unfold geom
  cases hh : r.halo <;> simp only [Option.map, hmax, hdx, hdy, mul_div_mul_left _ _ hs.ne']

theorem ls_waveX (b : ℕ) : waveX RC (geom RC r') b = waveX RC (geom RC r) b / s := by
  unfold waveX
  rw [ls_geom h hs]
  -- `ring` must not meet the scientific literal
  generalize (2.0 : ℝ) * RC.pi = c
  ring

theorem ls_waveY (a : ℕ) : waveY RC (geom RC r') a = waveY RC (geom RC r) a / s := by
  unfold waveY
  rw [ls_geom h hs]
  generalize (2.0 : ℝ) * RC.pi = c
  ring

theorem ls_srcSpectrum : srcSpectrum RC r' (geom RC r') = srcSpectrum RC r (geom RC r) := by
  have hgm := ls_geom h hs
  have hpad : padSrc RC r' (geom RC r') = padSrc RC r (geom RC r) := by
    funext J I
    unfold padSrc
    rw [hgm, show r' = _ from h]
  unfold srcSpectrum
  rw [hpad, show r'.footprint = r.footprint from congrArg (·.footprint) h]
  simp only [hgm]

theorem ls_modeCoef (S : ℕ → ℕ → ℂ) (l a b : ℕ) :
    modeCoef RC r' (geom RC r') S l a b = modeCoef RC r (geom RC r) S l a b := by
  have hP : r'.P = scaleK s r.P := congrArg (·.P) h
  have han : r'.analytic = r.analytic := congrArg (·.analytic) h
  have hnz : r'.nz = r.nz := congrArg (·.nz) h
  have hz : ∀ i, r'.z i = s * r.z i := fun i => congrFun (congrArg (·.z) h) i
  have hK : ∀ i, r'.P.Kz i = 1 * s * r.P.Kz i := fun i => by
    rw [hP]
    exact scaleK_Kz s r.P i
  have hbg : r'.bg = r.bg / 1 := (congrArg (·.bg) h).trans (div_one _).symm
  have hT : ∀ i, Tcoef RC r'.P (waveX RC (geom RC r') b) (waveY RC (geom RC r') a) i
      = ((1 : ℝ) : ℂ) / s * Tcoef RC r.P (waveX RC (geom RC r) b) (waveY RC (geom RC r) a) i := fun i => by
    rw [hP, ls_waveX h hs, ls_waveY h hs]
    exact Tcoef_length _ _ _ s hs.ne' i
  have := modeCoef_similarity (r := r) (r' := r') (g := geom RC r) (g' := geom RC r') (a := a) (b := b) (μ := 1) (γ := s)
    (hμ := one_ne_zero) (hγ := hs) (han := han) (hnz := hnz) (hz := hz) (hK := hK) (hbg := hbg) (h0 := Iff.rfl) (hT := hT)
    (hS := (one_mul (S a b)).symm) (hχ := fun _ => rfl) l
  rwa [Complex.ofReal_one, div_one, one_smul] at this

theorem ls_shift (a b : ℕ) : shiftFactor RC r' (geom RC r') a b = shiftFactor RC r (geom RC r) a b := by
  -- the wavenumbers shrink by `s`, the offsets they multiply grow by `s`
  have efp : ∀ L L' X Y p q d d' : ℝ,
      L / s * (s * X + p * (s * d)) + L' / s * (s * Y + q * (s * d')) = L * (X + p * d) + L' * (Y + q * d') := by
    intros
    field_simp
  have edp : ∀ L L' X Y M M' : ℝ,
      L / s * (s * X - s * M / 2) + L' / s * (s * Y - s * M' / 2) = L * (X - M / 2) + L' * (Y - M' / 2) := by
    intros
    field_simp
  have guard : (0 < (s * r.xm) ^ 2 + (s * r.ym) ^ 2) ↔ (0 < r.xm ^ 2 + r.ym ^ 2) := by
    rw [mul_pow, mul_pow, ← mul_add]
    exact mul_pos_iff_of_pos_left (by positivity)
  rw [shiftFactor_RC, shiftFactor_RC, ls_waveX h hs, ls_waveY h hs, ls_geom h hs, show r' = _ from h]
  simp only [guard, efp, edp]

/-- length similarity, whole pipeline: identical padded-domain fields -/
theorem length_similarity_field (hKz : r.P.Kz (r.nz - 1) ≠ 0) (l : ℕ) :
    fieldsAt RC r' (geom RC r') (srcSpectrum RC r' (geom RC r')).get l
      = fieldsAt RC r (geom RC r) (srcSpectrum RC r (geom RC r)).get l := by
  have hgm := ls_geom h hs
  rw [ls_srcSpectrum h hs]
  exact fieldsAt_congr (congrArg (·.footprint) h) (by rw [hgm]) (by rw [hgm]) (by rw [hgm]) (by rw [hgm]) (by rw [hgm])
    (by rw [hgm]) (ls_modeCoef h hs _ l) (ls_shift h hs)

/-- … observed through the public result: `solveOk` returns the same `conc` and `flx` -/
theorem length_similarity_output (hKz : r.P.Kz (r.nz - 1) ≠ 0) (k j i : ℕ) :
    (solveOk RC r').conc k j i = (solveOk RC r).conc k j i ∧ (solveOk RC r').flx k j i = (solveOk RC r).flx k j i :=
  C10.output_of_field (by rw [show r' = _ from h]) fun l => by
    rw [length_similarity_field h hs hKz l, ls_geom h hs]
    exact ⟨rfl, rfl⟩

end

/-! non-vacuity: the hypotheses are met by a concrete pair of requests with different extents -/
example : ∃ r r' : SolveReq ℝ, LenScaled 2.5 r r' ∧ (0 : ℝ) < 2.5 ∧ r.P.Kz (r.nz - 1) ≠ 0 ∧ r'.xmx ≠ r.xmx := by
  refine ⟨Witness.wreq false, _, rfl, by norm_num, one_ne_zero, ?_⟩
  norm_num [Witness.wreq]

end BLDFM.C07
