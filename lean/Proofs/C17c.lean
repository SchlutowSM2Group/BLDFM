/-
  C17, accuracy clause — bearing: "the local bearing agrees with the initial great-circle bearing to within
  0.1 degree" for offsets of up to 5 km at |ref latitude| ≤ 60°.
  The local direction (north, east) = (a, c·b) and the initial great-circle direction (N, E) enclose the signed angle
  δ = arg((N + iE)·conj(a + i c b)); `bearing_core` (`Proofs.Lemmas.SphereBearing`) gives |δ| ≤ 1.745·10⁻³ < 0.1·π/180.
-/
import Proofs.C17
import Proofs.Lemmas.SphereBearing
import Mathlib.Analysis.Real.Pi.Bounds

open BLDFM BLDFM.Spec

namespace BLDFM.C17

/-- signed angle (radians, in (−π, π]) from the local direction of the point `(lat, lon)` seen from the reference
origin — north component `y`, east component `x` of the model's `latlonToXy` — to the initial great-circle
direction (north component `cos φ₀ sin φ₁ − sin φ₀ cos φ₁ cos Δλ`, east component `sin Δλ cos φ₁`) -/
noncomputable def bearingError (lat lon refLat refLon : ℝ) : ℝ :=
  Complex.arg ((⟨Real.cos (refLat * (Real.pi / 180)) * Real.sin (lat * (Real.pi / 180))
      - Real.sin (refLat * (Real.pi / 180)) * Real.cos (lat * (Real.pi / 180)) * Real.cos ((lon - refLon) * (Real.pi / 180)),
      Real.sin ((lon - refLon) * (Real.pi / 180)) * Real.cos (lat * (Real.pi / 180))⟩ : ℂ)
    * (starRingEnd ℂ) ⟨(latlonToXy RC lat lon refLat refLon).2, (latlonToXy RC lat lon refLat refLon).1⟩)

/-- **C17 accuracy clause (bearing).**  For a reference latitude within ±60° and a point whose local distance from
the reference origin is at most 5000 m, the local bearing and the initial great-circle bearing differ by at most
0.1 degree. -/
theorem equirect_bearing_accuracy (lat lon refLat refLon : ℝ) (hlat : |refLat| ≤ 60)
    (hd : Real.sqrt ((latlonToXy RC lat lon refLat refLon).1 ^ 2 + (latlonToXy RC lat lon refLat refLon).2 ^ 2) ≤ 5000) :
    |bearingError lat lon refLat refLon| ≤ 0.1 * (Real.pi / 180) := by
  -- 5000 m ≤ 6371000 m · 8·10⁻⁴
  have hε := local_angle_le (ε := 8 / 10000) (hd.trans (by norm_num))
  -- `φ₀`, `a`, `b` are `refLat`, `lat - refLat`, `lon - refLon` in radians, `t` the local angle of `hε`
  have core := bearing_core (half_le_cos_deg hlat) (Real.sqrt_nonneg _) (Real.sq_sqrt (by positivity)) hε
  have hφ1 : lat * (Real.pi / 180) = refLat * (Real.pi / 180) + (lat - refLat) * (Real.pi / 180) := by ring
  -- scaling the local vector by the earth radius does not change the angle
  have hscale (x y : ℝ) : (starRingEnd ℂ) (⟨6371000 * x, 6371000 * y⟩ : ℂ) = ((6371000 : ℝ) : ℂ) * (starRingEnd ℂ) ⟨x, y⟩ := by
    apply Complex.ext <;> simp
  rw [bearingError, latlonToXy_fst, latlonToXy_snd, hφ1, hscale, mul_left_comm,
    Complex.arg_real_mul _ (by norm_num : (0 : ℝ) < 6371000)]
  refine core.trans ?_
  have hpi4 := Real.pi_gt_d4
  norm_num at hpi4 ⊢
  linarith only [hpi4]

end BLDFM.C17
