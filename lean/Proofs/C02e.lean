/-
  C02e — the reciprocity sums `Σ q·footprint` and `Σ q·G` as they are evaluated in floating point: every product and every
  addition rounded (`|fl x - x| ≤ eps |x|`).  The computed value differs from the exact sum by at most
  `((1 + eps)^(n+1) - 1) Σ|qᵢ wᵢ|`, i.e. `2 (n+1) eps Σ|qᵢ wᵢ|` for `(n+1) eps ≤ 1/2`.  Together with the exact
  identities of C02 (both sides equal over the reals) this is the tolerance at which the identity can be observed.
-/
import Proofs.C20d

namespace BLDFM.C02

open BLDFM.C20

/-- the rounded products `fl (qᵢ wᵢ)` -/
def flProducts (fl : ℝ → ℝ) (q w : List ℝ) : List ℝ := List.zipWith (fun a b => fl (a * b)) q w

def products (q w : List ℝ) : List ℝ := List.zipWith (fun a b => a * b) q w

/-- `Σ qᵢ wᵢ` as computed: rounded products, summed left to right with a rounding per addition -/
def flDot (fl : ℝ → ℝ) (q w : List ℝ) : ℝ := flSum fl (flProducts fl q w)

theorem flProducts_eq_map (fl : ℝ → ℝ) (q w : List ℝ) : flProducts fl q w = (products q w).map fl :=
  List.map_zipWith.symm

theorem flProducts_close (fl : ℝ → ℝ) (eps : ℝ) (hfl : ∀ x, |fl x - x| ≤ eps * |x|) (q w : List ℝ) :
    |(flProducts fl q w).sum - (products q w).sum| ≤ eps * absSum (products q w) ∧
      absSum (flProducts fl q w) ≤ (1 + eps) * absSum (products q w) := by
  rw [flProducts_eq_map]
  exact map_fl_close fl eps hfl _

theorem flDot_error (fl : ℝ → ℝ) (eps : ℝ) (heps : 0 ≤ eps) (hfl : ∀ x, |fl x - x| ≤ eps * |x|) (q w : List ℝ) :
    |flDot fl q w - (products q w).sum|
      ≤ ((1 + eps) ^ ((products q w).length + 1) - 1) * absSum (products q w) := by
  rw [flDot, flProducts_eq_map]
  exact flSum_map_fl_error fl eps heps hfl _

/-- explicit form: `2 (n + 1) eps Σ|qᵢ wᵢ|` when `(n + 1) eps ≤ 1/2` (a 512 x 512 source in double precision: `5.8e-11`
of `Σ|q w|`) -/
theorem flDot_error_explicit (fl : ℝ → ℝ) (eps : ℝ) (heps : 0 ≤ eps) (hfl : ∀ x, |fl x - x| ≤ eps * |x|) (q w : List ℝ)
    (hn : (((products q w).length + 1 : ℕ) : ℝ) * eps ≤ 1 / 2) :
    |flDot fl q w - (products q w).sum| ≤ 2 * ((products q w).length + 1 : ℕ) * eps * absSum (products q w) :=
  (flDot_error fl eps heps hfl q w).trans
    (mul_le_mul_of_nonneg_right (pow_sub_one_le eps heps _ hn) (absSum_nonneg _))

example : flDot id [1, 2, 3] [4, 5, 6] = 32 := by norm_num [flDot, flSum, flFold, flProducts]

end BLDFM.C02
