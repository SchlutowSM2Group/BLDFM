/-
  C02 — footprint weights reproduce flux and concentration at the tower.
  Spectral core of the reciprocity: in footprint mode the coefficient of slot (a,b) is
  the per-mode transfer `W_ab/(Nx Ny)` times the phase of the tower's padded-grid cell
  `(jm+py, im+px)`; in dispersion mode it is `W_ab · q̂_ab`, evaluated at that same
  cell.  The transfer `W` is the same function in both modes (it does not depend on
  the source or on the mode flag).  `xfer` extends it to the mean mode, so that every coefficient is
  source × `xfer`, plus the background at the DC slot (`modeCoef_eq`), and the field is the trigonometric
  sum of these plus the background (`fieldAt_eq`).
-/
import Proofs.Lemmas.Ortho
import Proofs.C03

open BLDFM BLDFM.Spec BLDFM.Index

namespace BLDFM.C02

/-- per-mode transfer function: response `(p, q)` at node `l` to a unit spectral surface flux -/
noncomputable def transfer (req : SolveReq ℝ) (g : Geom ℝ) (l a b : ℕ) : ℂ × ℂ :=
  if req.analytic then columnAna RC req.P req.z (req.nz - 1) (waveX RC g b) (waveY RC g a) 1 l
  else columnNum RC req.P req.z (req.nz - 1) (waveX RC g b) (waveY RC g a) 1 l

/-- every non-constant spectral coefficient is `transfer × (spectral surface flux)`, in both
modes: the same Green's function is used for footprints and for dispersion -/
theorem coef_is_transfer_times_source (req : SolveReq ℝ) (g : Geom ℝ) (S : ℕ → ℕ → ℂ) (l a b : ℕ)
    (hab : ¬(a = 0 ∧ b = 0)) :
    modeCoef RC req g S l a b = S a b • transfer req g l a b := by
  rw [modeCoef_RC, if_neg hab, ← mul_one (S a b), column_smul, mul_one]
  unfold transfer column
  rfl

/-- the transfer function does not depend on the mode flag, the source, the measurement
point or the background: footprint and dispersion runs of the same problem share it -/
theorem transfer_indep_mode (req : SolveReq ℝ) (fp : Bool) (q' : ℕ → ℕ → ℝ) (xm' ym' bg' : ℝ) (l a b : ℕ) :
    transfer { req with footprint := fp, q := q', xm := xm', ym := ym', bg := bg' }
        (geom RC { req with footprint := fp, q := q', xm := xm', ym := ym', bg := bg' }) l a b
      = transfer req (geom RC req) l a b := rfl

/-- the shooting denominator is non-zero at every slot `(a, b)`, retained or not (numerical branch) -/
def DenOK (req : SolveReq ℝ) : Prop :=
  req.analytic = false → ∀ a b,
    (ivpState RC req.P req.z (waveX RC (geom RC req) b) (waveY RC (geom RC req) a) ((1.0 : ℂ), (0.0 : ℂ)) (req.nz - 1)).2
      - RC.ofReal (req.P.Kz (req.nz - 1)) * eigval RC req.P (req.nz - 1) (waveX RC (geom RC req) b) (waveY RC (geom RC req) a)
        * (ivpState RC req.P req.z (waveX RC (geom RC req) b) (waveY RC (geom RC req) a) ((1.0 : ℂ), (0.0 : ℂ)) (req.nz - 1)).1 ≠ 0

/-- transfer pair `(p, q)` of every slot, the mean mode included: its flux is the unit flux, its concentration
the response of the mean mode to a unit flux over a zero background (minus the vertical resistance) -/
noncomputable def xfer (req : SolveReq ℝ) (g : Geom ℝ) (l a b : ℕ) : ℂ × ℂ :=
  if a = 0 ∧ b = 0 then (meanMode req.analytic req.P req.z (req.nz - 1) 0 1 l, 1) else transfer req g l a b

theorem modeCoef_eq (req : SolveReq ℝ) (g : Geom ℝ) (S : ℕ → ℕ → ℂ) (l a b : ℕ) :
    modeCoef RC req g S l a b =
      S a b • xfer req g l a b + (if a = 0 ∧ b = 0 then ((req.bg : ℂ), 0) else 0) := by
  unfold xfer
  by_cases hab : a = 0 ∧ b = 0
  · rw [modeCoef_RC, if_pos hab, if_pos hab, if_pos hab]
    refine Prod.ext ?_ (by simp)
    cases req.analytic
    · simp only [meanMode, meanNum, Bool.false_eq_true, if_false, Prod.fst_add, Prod.smul_fst, smul_eq_mul]
      ring
    · simp only [meanMode, meanAna, if_true, Prod.fst_add, Prod.smul_fst, smul_eq_mul]
      ring
  · rw [if_neg hab, if_neg hab, add_zero, coef_is_transfer_times_source req g S l a b hab]

theorem flux_coef (req : SolveReq ℝ) (g : Geom ℝ) (S : ℕ → ℕ → ℂ) (l a b : ℕ) :
    (modeCoef RC req g S l a b).2 = S a b * (xfer req g l a b).2 := by
  rw [modeCoef_eq]
  split <;> simp

/-- the truncated source spectrum in terms of the padded source: slot `(a, b)` holds the forward sum of the padded
source at the frequency pair `(f(a), f(b))`, normalised -/
theorem srcSpectrum_fwd (req : SolveReq ℝ) {g : Geom ℝ} (hg : GeomOK g) (hfp : req.footprint = false)
    (a b : ℕ) (ha : a < g.nly) (hb : b < g.nlx) :
    (srcSpectrum RC req g).get a b =
      fwd g.nye (fun J => fwd g.nxe (padSrc RC req g J) (sfreq g.nlx b)) (sfreq g.nly a)
        / ((g.nye : ℂ) * (g.nxe : ℂ)) := by
  have e : RC.ofReal (1.0 / RC.natCast (g.nye * g.nxe)) = 1 / ((g.nye : ℂ) * (g.nxe : ℂ)) := by
    rw [RC_ofReal, RC_natCast]
    push_cast
    norm_num
  have ty : truncSrc g.nye g.nly g.dly a = slotPos g.nye g.nly a := by
    rw [hg.hdy]
    exact trunc_index _ _ _ hg.ady ha
  have tx : truncSrc g.nxe g.nlx g.dlx b = slotPos g.nxe g.nlx b := by
    rw [hg.hdx]
    exact trunc_index _ _ _ hg.adx hb
  have hfp' : ¬(req.footprint = true) := by
    rw [hfp]
    exact Bool.false_ne_true
  unfold srcSpectrum
  rw [if_neg hfp', Tab2.get_tab]
  rw [ty, tx]
  rw [dft2_neg _ _ hg.Ny_pos hg.Nx_pos, e, mul_one_div, fwd_slotPos hg.Ny_pos hg.ady.le ha]
  simp only [fwd_slotPos hg.Nx_pos hg.adx.le hb]

theorem srcSpectrum_formula (req : SolveReq ℝ) {g : Geom ℝ} (hg : GeomOK g) (hfp : req.footprint = false)
    (a b : ℕ) (ha : a < g.nly) (hb : b < g.nlx) :
    (srcSpectrum RC req g).get a b =
      (∑ J ∈ Finset.range g.nye, (∑ I ∈ Finset.range g.nxe,
          padSrc RC req g J I * rootPow g.nxe (-(sfreq g.nlx b * I))) * rootPow g.nye (-(sfreq g.nly a * J)))
        / ((g.nye : ℂ) * (g.nxe : ℂ)) :=
  srcSpectrum_fwd req hg hfp a b ha hb

theorem fieldAt_eq (req : SolveReq ℝ) (g : Geom ℝ) (hg : GeomOK g) (S : ℕ → ℕ → ℂ) (l J I : ℕ) :
    fieldAt req g S l J I =
      trig (sgnZ req.footprint) g.nye g.nxe g.nly g.nlx
          (fun a b => (shiftFactor RC req g a b * S a b) • xfer req g l a b) J I
        + ((req.bg : ℂ), 0) := by
  rw [fieldAt_trig req g hg,
    ← trig_dc (s := sgnZ req.footprint) (Ny := g.nye) (Nx := g.nxe) hg.ady.pos hg.adx.pos ((req.bg : ℂ), (0 : ℂ)) J I,
    ← trig_add]
  refine trig_congr (fun a _ b _ => ?_) _ _
  rw [coefTab, modeCoef_eq, smul_add, smul_smul]
  split
  · rename_i h
    rw [h.1, h.2, C03.dc_phase_unit req g hg.adx.pos hg.ady.pos, one_smul]
  · rw [smul_zero]

end BLDFM.C02
