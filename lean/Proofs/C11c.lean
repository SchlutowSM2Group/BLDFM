/-
  C11 — "requesting more modes than the padded grid holds equals requesting exactly as many as it holds", at the level of the returned
  result (C11.clamp_equiv is the statement about the derived geometry): every field value, height label and coordinate of the over-request
  equals that of the request with `(nlx, nly) = (Nx, Ny)`.
-/
import Proofs.C11
import Proofs.Lemmas.Witness

open BLDFM BLDFM.Spec

namespace BLDFM.C11

/-- the result depends on the requested mode counts only through the derived geometry -/
theorem solveOk_of_geom_eq (r r' : SolveReq ℝ) (hg : geom RC r' = geom RC r)
    (h : r' = { r with nlx := r'.nlx, nly := r'.nly }) : solveOk RC r' = solveOk RC r := by
  obtain ⟨n1, n2, rfl⟩ : ∃ n1 n2, r' = { r with nlx := n1, nly := n2 } := ⟨_, _, h⟩
  exact solveOk_congr rfl rfl rfl rfl hg (fun _ => rfl)

/-- over-request = exact request, at the level of the returned result.  Stated on `solveOk`, not on `solve`: when
the padded size is odd the exact request `(Nx, Ny)` is itself rejected by the even-modes check, while the over-request
(even counts) passes and is clamped to it. -/
theorem clamp_output (req : SolveReq ℝ) (hover : req.nlx > (geom RC req).nxe ∨ req.nly > (geom RC req).nye) (k j i : ℕ) :
    let exact : SolveReq ℝ := { req with nlx := (geom RC req).nxe, nly := (geom RC req).nye }
    (solveOk RC exact).conc k j i = (solveOk RC req).conc k j i ∧ (solveOk RC exact).flx k j i = (solveOk RC req).flx k j i ∧
    (solveOk RC exact).Z k = (solveOk RC req).Z k ∧ (solveOk RC exact).X i = (solveOk RC req).X i ∧ (solveOk RC exact).Y j = (solveOk RC req).Y j := by
  intro exact
  rw [solveOk_of_geom_eq req exact (clamp_equiv req hover) rfl]
  exact ⟨rfl, rfl, rfl, rfl, rfl⟩

/-! non-vacuity: 512 modes on a 5 × 4 grid without halo exceed the padded size -/
example : (512 : ℕ) > (geom RC ({ Witness.wreq false with nlx := 512, nly := 512 } : SolveReq ℝ)).nxe := by
  rw [geom_no_halo rfl]
  decide

end BLDFM.C11
