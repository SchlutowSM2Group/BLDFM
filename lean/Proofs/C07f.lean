/-
  C07 (field level) — mirroring in y, obtained by conjugating the x-mirror with the axis swap:
  `mirrorY = transpose ∘ mirrorX ∘ transpose`.  Source mirrored in y (`q'[j, i] = q[ny-1-j, i]`), `v ↦ -v`; when every
  retained y-slot has a partner (odd retained-mode count in y) both padded-domain fields are mirrored in y.
-/
import Proofs.C07b
import Proofs.C07e

open BLDFM BLDFM.Spec BLDFM.Index

namespace BLDFM.C07

/-- the shooting denominators of the transposed request are those of the original with the slots exchanged -/
theorem denOK_transpose (r : SolveReq ℝ) (hden : C02.DenOK r) : C02.DenOK (transposeOf r) := by
  have h := transposeOf_pair r
  intro han a b
  rw [tr_waveX h, tr_waveY h, ivp_congr (P' := (transposeOf r).P) (Tcoef_swap r.P _ _) rfl,
    eigval_congr (P' := (transposeOf r).P) (Tcoef_swap r.P _ _) rfl]
  exact hden han b a

theorem mirrorY_of_mirrorX {r r2 : SolveReq ℝ} (hg : GeomOK (geom RC r)) (hg2 : GeomOK (geom RC r2)) (l : ℕ)
    (hm : ∀ J I, I < (geom RC r).nye →
      fieldAt r2 (geom RC r2) (srcSpectrum RC r2 (geom RC r2)).get l J I
        = fieldAt (transposeOf r) (geom RC (transposeOf r)) (srcSpectrum RC (transposeOf r) (geom RC (transposeOf r))).get l
            J ((geom RC r).nye - 1 - I))
    (J I : ℕ) (hJ : J < (geom RC r).nye) :
    fieldAt (transposeOf r2) (geom RC (transposeOf r2)) (srcSpectrum RC (transposeOf r2) (geom RC (transposeOf r2))).get l J I
      = fieldAt r (geom RC r) (srcSpectrum RC r (geom RC r)).get l ((geom RC r).nye - 1 - J) I := by
  have s32 := transpose_field (transposeOf_pair r2) hg2 l J I
  have s10 := transpose_field (transposeOf_pair r) hg l I ((geom RC r).nye - 1 - J)
  exact (Prod.ext s32.1 s32.2).trans ((hm I J hJ).trans (Prod.ext s10.1 s10.2))

def mirrorYOf (r : SolveReq ℝ) : SolveReq ℝ :=
  { r with q := fun j i => r.q (r.ny - 1 - j) i, P := mirrorY r.P }

def mirrorXOf (r : SolveReq ℝ) : SolveReq ℝ :=
  { r with q := fun j i => r.q j (r.nx - 1 - i), P := mirrorX r.P }

theorem mirrorY_is_conjugate (r : SolveReq ℝ) : mirrorYOf r = transposeOf (mirrorXOf (transposeOf r)) := rfl

/-- mirror in y, field form: with an odd retained-mode count in y both padded-domain fields of the y-mirrored request are the
fields mirrored in y.  Dispersion mode with the measurement point at the origin. -/
theorem mirrorY_field (r : SolveReq ℝ) (hg : GeomOK (geom RC r)) (hp : r.precision = .double) (hden : C02.DenOK r)
    (hfp : r.footprint = false) (hxm : r.xm = 0) (hym : r.ym = 0) (hodd : (geom RC r).nly % 2 = 1)
    (l J I : ℕ) (hJ : J < (geom RC r).nye) :
    (fieldsAt RC (mirrorYOf r) (geom RC (mirrorYOf r)) (srcSpectrum RC (mirrorYOf r) (geom RC (mirrorYOf r))).get l).1.get J I
      = (fieldsAt RC r (geom RC r) (srcSpectrum RC r (geom RC r)).get l).1.get ((geom RC r).nye - 1 - J) I ∧
    (fieldsAt RC (mirrorYOf r) (geom RC (mirrorYOf r)) (srcSpectrum RC (mirrorYOf r) (geom RC (mirrorYOf r))).get l).2.get J I
      = (fieldsAt RC r (geom RC r) (srcSpectrum RC r (geom RC r)).get l).2.get ((geom RC r).nye - 1 - J) I := by
  have t01 := transposeOf_pair r
  have m12 : MirroredX (transposeOf r) (mirrorXOf (transposeOf r)) := rfl
  have hg1 := tr_geomOK t01 hg
  have hg2 : GeomOK (geom RC (mirrorXOf (transposeOf r))) := by
    rw [mx_geom m12]
    exact hg1
  have hodd1 : (geom RC (transposeOf r)).nlx % 2 = 1 := by
    rw [tr_nlx t01]
    exact hodd
  rw [mirrorY_is_conjugate]
  refine Prod.mk.inj (mirrorY_of_mirrorX hg hg2 l (fun J I hI => ?_) J I hJ)
  rw [← tr_nxe t01] at hI ⊢
  have hx := mirrorX_field m12 hg1 hp (denOK_transpose r hden) hfp hym hxm hodd1 l J I hI
  exact Prod.ext hx.1 hx.2

end BLDFM.C07
