/-
  Root of the `Proofs` library.  The property modules `Proofs/Cxx*.lean` and the bridge modules `Proofs/Bridge/*.lean`
  are not imported here: `./check` and `setup.sh` build them one by one (module names from `tools/registry.py`), so
  that a bridge which does not check against the regenerated kernels fails its own property's check, not the build.
-/
import Proofs.Lemmas.Spec
